import Sm9.Proofs.Decoders
/-!
# C10 — Point encodings round-trip and follow the SM9 byte formats

For every valid non-identity value in **any** representation: the raw, 0x04-prefixed and
0x02/0x03-prefixed encodings are the big-endian affine coordinates (imaginary part first in
G2, prefix by parity of y / of Re y), depend only on the denoted point, and decode back to a
value `==` to the original — G1 in all three formats; G2 raw and uncompressed for subgroup
points; compressed G2 up to sign unconditionally and exactly under Re y ≠ 0 (`…_partial`:
missing is a proof that no point of the order-r subgroup has Re y = 0).  The identity cannot be
encoded (panic, as in the crate).
-/
namespace Sm9.C10

theorem g1_slice_roundtrip (P : G1) (hP : G1.Valid P) (hz : P.z ≠ 0) :
    ∃ bs P', Api.g1ToSlice P = .ok bs ∧ Api.g1FromSlice bs = .ok P' ∧ P'.eq P = true :=
  let ⟨bs, h1, h2⟩ := g1_slice_encdec P hP hz; ⟨bs, _, h1, h2, G1.normalize_eq P hP⟩
theorem g1_uncompressed_roundtrip (P : G1) (hP : G1.Valid P) (hz : P.z ≠ 0) :
    ∃ bs P', Api.g1ToUncompressed P = .ok bs ∧ Api.g1FromUncompressed bs = .ok P' ∧ P'.eq P = true :=
  let ⟨bs, h1, h2⟩ := g1_uncompressed_encdec P hP hz; ⟨bs, _, h1, h2, G1.normalize_eq P hP⟩
theorem g1_compressed_roundtrip (P : G1) (hP : G1.Valid P) (hz : P.z ≠ 0) :
    ∃ bs P', Api.g1ToCompressed P = .ok bs ∧ Api.g1FromCompressed bs = .ok P' ∧ P'.eq P = true :=
  let ⟨bs, h1, h2⟩ := g1_compressed_encdec P hP hz; ⟨bs, _, h1, h2, G1.normalize_eq P hP⟩
theorem g2_slice_roundtrip (P : G2) (hP : G2.Valid P) (hz : P.z ≠ 0) (hsub : r • G2.toAff P = 0) :
    ∃ bs P', Api.g2ToSlice P = .ok bs ∧ Api.g2FromSlice bs = .ok P' ∧ P'.eq P = true :=
  let ⟨bs, h1, h2⟩ := g2_slice_encdec P hP hz hsub; ⟨bs, _, h1, h2, G2.normalize_eq P hP⟩
theorem g2_uncompressed_roundtrip (P : G2) (hP : G2.Valid P) (hz : P.z ≠ 0) (hsub : r • G2.toAff P = 0) :
    ∃ bs P', Api.g2ToUncompressed P = .ok bs ∧ Api.g2FromUncompressed bs = .ok P' ∧ P'.eq P = true :=
  let ⟨bs, h1, h2⟩ := g2_uncompressed_encdec P hP hz hsub; ⟨bs, _, h1, h2, G2.normalize_eq P hP⟩
theorem g2_compressed_roundtrip_up_to_sign (P : G2) (hP : G2.Valid P) (hz : P.z ≠ 0) (hsub : r • G2.toAff P = 0) :
    ∃ bs P', Api.g2ToCompressed P = .ok bs ∧ Api.g2FromCompressed bs = .ok P' ∧
      (P'.eq P = true ∨ P'.eq P.neg = true) := by
  obtain ⟨bs, Q, h1, h2, h3, _⟩ := g2_compressed_encdec P hP hz hsub
  refine ⟨bs, Q, h1, h2, ?_⟩
  obtain ⟨hn1, _, _, hn4⟩ := G2.normalize_spec P hP
  rcases h3 with rfl | rfl
  · exact Or.inl (G2.normalize_eq P hP)
  · exact Or.inr ((G2.eq_iff _ _ (G2.neg_valid _ hn4) (G2.neg_valid P hP)).2
      (by rw [G2.neg_correct _ hn4, hn1, G2.neg_correct P hP]))
/-- **partial**: exact compressed round trip for G2 under Re y ≠ 0 (see the header) -/
theorem g2_compressed_roundtrip_partial (P : G2) (hP : G2.Valid P) (hz : P.z ≠ 0)
    (hsub : r • G2.toAff P = 0) (hre : (P.y / P.z ^ 3).c0 ≠ 0) :
    ∃ bs P', Api.g2ToCompressed P = .ok bs ∧ Api.g2FromCompressed bs = .ok P' ∧ P'.eq P = true :=
  let ⟨bs, _, h1, h2, _, h4⟩ := g2_compressed_encdec P hP hz hsub; ⟨bs, _, h1, h2, h4 hre ▸ G2.normalize_eq P hP⟩
/-- encodings do not depend on the representative -/
theorem g1_encodings_rep_indep (P Q : G1) (hP : G1.Valid P) (hQ : G1.Valid Q) (h : G1.toAff P = G1.toAff Q) :
    Api.g1ToSlice P = Api.g1ToSlice Q ∧ Api.g1ToUncompressed P = Api.g1ToUncompressed Q ∧
    Api.g1ToCompressed P = Api.g1ToCompressed Q :=
  g1_encodings_congr (G1.to_affine_congr P Q hP hQ h)
theorem g2_encodings_rep_indep (P Q : G2) (hP : G2.Valid P) (hQ : G2.Valid Q) (h : G2.toAff P = G2.toAff Q) :
    Api.g2ToSlice P = Api.g2ToSlice Q ∧ Api.g2ToUncompressed P = Api.g2ToUncompressed Q ∧
    Api.g2ToCompressed P = Api.g2ToCompressed Q :=
  g2_encodings_congr (G2.to_affine_congr P Q hP hQ h)
theorem g1_to_slice_identity (p : G1) (h : p.z = 0) : Api.g1ToSlice p = .panic := g1_to_slice_identity_panics p h
theorem g1_to_slice_layout (p : G1) (a : AffineG1) (h : p.to_affine = some a) :
    Api.g1ToSlice p = .ok (beBytes 32 a.x.val ++ beBytes 32 a.y.val) := by
  unfold Api.g1ToSlice; rw [h]; rfl
theorem g1_to_uncompressed_layout (p : G1) (a : AffineG1) (h : p.to_affine = some a) :
    Api.g1ToUncompressed p = .ok ((4 : UInt8) :: (beBytes 32 a.x.val ++ beBytes 32 a.y.val)) := by
  unfold Api.g1ToUncompressed; rw [g1_to_slice_layout p a h]; rfl
theorem g1_to_compressed_layout (p : G1) (a : AffineG1) (h : p.to_affine = some a) :
    Api.g1ToCompressed p = .ok ((if a.y.val % 2 == 0 then (2 : UInt8) else 3) :: beBytes 32 a.x.val) := by
  unfold Api.g1ToCompressed; rw [h]; rfl
theorem g2_to_slice_layout (p : G2) (a : AffineG2) (h : p.to_affine = some a) :
    Api.g2ToSlice p = .ok ((beBytes 32 a.x.c1.val ++ beBytes 32 a.x.c0.val) ++ (beBytes 32 a.y.c1.val ++ beBytes 32 a.y.c0.val)) := by
  unfold Api.g2ToSlice; rw [h]; rfl
theorem g2_to_compressed_layout (p : G2) (a : AffineG2) (h : p.to_affine = some a) :
    Api.g2ToCompressed p = .ok ((if a.y.c0.val % 2 == 0 then (2 : UInt8) else 3) :: (beBytes 32 a.x.c1.val ++ beBytes 32 a.x.c0.val)) := by
  unfold Api.g2ToCompressed; rw [h]; rfl
/-- coordinates in an encoding are canonical: every 32-byte field is below q -/
theorem coordinate_canonical (x : Fq) : beVal (Api.fqToSlice x) < q := (Api.beVal_fqToSlice x).symm ▸ x.isLt

example : ∃ bs P', Api.g1ToSlice G.one = .ok bs ∧ Api.g1FromSlice bs = .ok P' ∧ P'.eq G.one = true :=
  g1_slice_roundtrip G.one G1.one_valid (by decide +kernel)

example : ∃ bs P', Api.g1ToCompressed G.one = .ok bs ∧ Api.g1FromCompressed bs = .ok P' ∧ P'.eq G.one = true :=
  g1_compressed_roundtrip G.one G1.one_valid (by decide +kernel)

example : ∃ bs P', Api.g2ToSlice G.one = .ok bs ∧ Api.g2FromSlice bs = .ok P' ∧ P'.eq G.one = true :=
  g2_slice_roundtrip G.one G2.one_valid G2.one_z_ne_zero G2.one_order

example : ∃ bs P', Api.g2ToCompressed G.one = .ok bs ∧ Api.g2FromCompressed bs = .ok P' ∧ P'.eq G.one = true := by
  refine g2_compressed_roundtrip_partial G.one G2.one_valid G2.one_z_ne_zero G2.one_order ?_
  have hz : (G.one : G2).z = 1 := rfl
  rw [hz, one_pow, div_one]
  decide +kernel

end Sm9.C10
