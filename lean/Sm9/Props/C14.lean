import Sm9.Proofs.Sqrt
import Sm9.Proofs.Consts
import Sm9.Proofs.Decoders
import Sm9.Proofs.DecodersG2
/-!
# C14 — Square roots are sound and complete in Fq and Fq2
Full strength on the model: for **every** x in Fq and in Fq2, `sqrt x` is `some s` with
s·s = x exactly when x is a square, `none` otherwise; sqrt 0 = 0; the Fq root returned is
the smaller of ±s; every element of Fq has a root in Fq2 (the D6 repair).  The consequence
for compressed decoding rests on these plus C08's decoder model.
-/
namespace Sm9.C14

theorem fq_sqrt_sound (x s : Fq) (h : x.sqrt = some s) : s * s = x := Fq.sqrt_sound x s h
theorem fq_sqrt_complete (x : Fq) (h : ∃ c, c * c = x) : x.sqrt.isSome = true := Fq.sqrt_complete x h
theorem fq_sqrt_none_iff (x : Fq) : x.sqrt = none ↔ ¬ ∃ c, c * c = x := Fq.sqrt_eq_none_iff x
theorem fq_sqrt_zero : (0 : Fq).sqrt = some 0 := Fq.sqrt_zero
theorem fq_sqrt_smaller (x s : Fq) (h : x.sqrt = some s) : s.val ≤ (-s).val := Fq.sqrt_smaller x s h
theorem fq2_sqrt_sound (x s : Fq2) (h : x.sqrt = some s) : s * s = x := Fq2.sqrt_sound x s h
theorem fq2_sqrt_complete (x : Fq2) (h : ∃ c, c * c = x) : x.sqrt.isSome = true := Fq2.sqrt_complete x h
theorem fq2_sqrt_none_iff (x : Fq2) : x.sqrt = none ↔ ¬ ∃ c, c * c = x := Fq2.sqrt_eq_none_iff x
theorem fq2_sqrt_real (a : Fq) : (Fq2.sqrt { c0 := a, c1 := 0 }).isSome = true := Fq2.sqrt_complete_real a
theorem fq2_sqrt_zero : Fq2.zero.sqrt = some Fq2.zero := by decide +kernel
theorem exponents : Fq.minus1_div4 = (Consts.FQ - 1) / 4 ∧ Fq.minus5_div8 = (Consts.FQ - 5) / 8 ∧ Consts.FQ % 8 = 5 :=
  ⟨minus1_div4_eq, minus5_div8_eq, q_mod_8⟩
/-- consequence: compressed-point decoding succeeds for every x-coordinate that carries a curve
    point, with the prefix selecting the parity of y (G1; G2 under Re y ≠ 0 is C10's partial) -/
theorem g1_decompression_succeeds (x y : Fq) (h : y * y = x * x * x + b1) :
    Api.g1FromCompressed (compByte y.is_even :: Api.fqToSlice x) = .ok { x := x, y := y, z := 1 } :=
  Sm9.g1_from_compressed_encode x y h
/-- the same for G2: for every subgroup point `(x, y)` of the twist both prefixes decompress (to `(x, ±y)`), and with
    Re y ≠ 0 the prefix of y gives back exactly `(x, y)` -/
theorem g2_decompression_succeeds (x y : Fq2) (h : y * y = x * x * x + b2)
    (hsub : r • G2.toAff { x := x, y := y, z := 1 } = 0) :
    (∀ b : UInt8, (b.toNat = 2 ∨ b.toNat = 3) →
      ∃ P : G2, Api.g2FromCompressed (b :: Api.fq2ToSlice x) = .ok P ∧ P.x = x ∧ (P.y = y ∨ P.y = -y) ∧ P.z = 1) ∧
    (y.c0 ≠ 0 → ∃ P : G2, Api.g2FromCompressed (compByte (Api.fq2IsEven y) :: Api.fq2ToSlice x) = .ok P ∧
      P.x = x ∧ P.y = y ∧ P.z = 1) :=
  ⟨fun b hb => Sm9.g2_from_compressed_complete x y h hsub b hb,
   fun hre => Sm9.g2_from_compressed_complete_exact x y h hsub hre _ rfl⟩
/-- the D6 witnesses on the repaired code: −4 and 2 (imaginary part 0) have verified roots -/
theorem d6_witnesses :
    ((Fq2.new (-(Fq.ofNat 4)) 0).sqrt.map fun s => decide (s * s = Fq2.new (-(Fq.ofNat 4)) 0)) = some true ∧
    ((Fq2.new (Fq.ofNat 2) 0).sqrt.map fun s => decide (s * s = Fq2.new (Fq.ofNat 2) 0)) = some true := by
  decide +kernel

end Sm9.C14
