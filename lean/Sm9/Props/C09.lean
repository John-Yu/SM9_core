import Sm9.Proofs.DecodersG2
import Sm9.Proofs.SpecGroup
import Sm9.Proofs.Consts
/-!
# C09 — Only points of the curve and of the order-r subgroup pass validated construction

`AffineG1::new(x, y)` succeeds exactly when y² = x³ + 5; `AffineG2::new(x, y)` exactly when y² = x³ + 5u and r·(x, y) = O in
the group of the twist, its test `(p·(r−1)) + p == O` being that condition; the G2 decoders reach `Ok` only through this
constructor.  The generator of G2 is accepted and a point of the twist outside the subgroup is rejected with
`NotInSubgroup` (kernel evaluations).  The oracle's membership tests are the same two conditions.
-/
namespace Sm9.C09

/-- `AffineG1::new(x, y)` succeeds exactly when y² = x³ + 5 -/
theorem affine_g1_new_iff (x y : Fq) :
    (∃ a, (AffineG.new x y : Except GroupError AffineG1) = .ok a) ↔ y * y = x * x * x + Fq.ofNat 5 := by
  rw [AffineG.new_g1, b1, coeff_b1]
  by_cases h : y * y = x * x * x + Fq.ofNat 5
  · rw [if_pos h]; exact ⟨fun _ => h, fun _ => ⟨_, rfl⟩⟩
  · rw [if_neg h]; exact ⟨fun ⟨_, e⟩ => (by cases e), fun e => absurd e h⟩
/-- **`AffineG2::new(x, y)` succeeds exactly when y² = x³ + 5u and r·(x, y) = O** in the group
    of the twist -/
theorem affine_g2_new_iff (x y : Fq2) :
    (AffineG.new x y : Except GroupError AffineG2).toBool = true ↔
      ∃ _ : y * y = x * x * x + b2, r • G2.toAff { x := x, y := y, z := 1 } = 0 := by
  rw [AffineG.new_g2]
  by_cases h : y * y = x * x * x + b2
  · by_cases ht : r • G2.toAff { x := x, y := y, z := 1 } = 0
    · rw [if_pos h, if_pos ht]; exact ⟨fun _ => ⟨h, ht⟩, fun _ => rfl⟩
    · rw [if_pos h, if_neg ht]; exact ⟨fun e => (by cases e), fun ⟨_, e⟩ => absurd e ht⟩
  · rw [if_neg h]; exact ⟨fun e => (by cases e), fun ⟨e, _⟩ => absurd e h⟩
/-- `AffineG2::new` accepts only after both tests: the curve equation of the twist and
    the subgroup test `(p·(r−1)) + p == O` -/
theorem affine_g2_new_ok (x y : Fq2) (a : AffineG2)
    (h : (AffineG.new x y : Except GroupError AffineG2) = .ok a) :
    y * y = x * x * x + Fq2.new 0 (Fq.ofNat 5) ∧
    G.eq ((({ x := x, y := y, z := 1 } : G2).mul (-(1 : Fr))).add { x := x, y := y, z := 1 }) G.zero = true := by
  obtain ⟨he, hr⟩ := (affine_g2_new_iff x y).1 (by rw [h]; rfl)
  exact ⟨coeff_b2 ▸ he, (G2.subgroup_test_iff x y he).2 hr⟩
/-- the G2 decoders reach `Ok` only through the validated constructor -/
theorem g2_from_slice_funnel (bs : List UInt8) (p : G2) (h : Api.g2FromSlice bs = .ok p) :
    ∃ x y a, (AffineG.new x y : Except GroupError AffineG2) = .ok a ∧ p = a.to_jacobian :=
  Sm9.g2_from_slice_funnel_new bs p h
/-- the generator of G2 is accepted -/
theorem P2_accepted :
    (AffineG.new (G.one : G2).x (G.one : G2).y : Except GroupError AffineG2).toBool = true :=
  (affine_g2_new_iff _ _).2 ⟨G2.one_on_twist, G2.one_order⟩
/-- … and a point of the twist outside the subgroup is rejected with `NotInSubgroup`
    (x = 1: y² = 1 + 5u has a root in Fq2; the point does not have order r) -/
theorem off_subgroup_rejected :
    ((Fq2.new 1 (Fq.ofNat 5)).sqrt.map fun y =>
      match (AffineG.new (1 : Fq2) y : Except GroupError AffineG2) with
      | .error GroupError.NotInSubgroup => true
      | _ => false) = some true := by
  decide +kernel

/-! ## against the independent implementation

The oracle's membership test is "on the twist (`Spec.onCurve2`) and `[r]P = O` by its own double-and-add over its own affine law".
Both halves are the conditions of `affine_g2_new_iff` (Proofs/SpecGroup.lean), and `Spec.r`, `Spec.q` are the crate's constants. -/
theorem independent_parameters : Spec.r = r ∧ Spec.q = q := ⟨SpecField.r_eq, SpecField.q_eq⟩
open SpecCurve SpecGroup in
theorem independent_subgroup_test (A : (Jac.Wb b2).Point) :
    Spec.ptMul Spec.opsQ2 Spec.r (encPt A) = none ↔ r • A = 0 := by
  rw [independent_parameters.1, ptMul_eq]
  constructor
  · intro h; exact encPt_injective (h.trans encPt_zero.symm)
  · intro h; rw [h]; rfl
open SpecField SpecGroup in
theorem independent_curve_tests (x1 y1 : Fq) (x2 y2 : Fq2) :
    Spec.onCurve1 x1.val y1.val = decide (y1 * y1 = x1 * x1 * x1 + b1) ∧
    Spec.onCurve2 (toQ2 x2) (toQ2 y2) = decide (y2 * y2 = x2 * x2 * x2 + b2) :=
  ⟨onCurve1_eq x1 y1, onCurve2_eq x2 y2⟩

end Sm9.C09
