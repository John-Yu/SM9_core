import Sm9.Proofs.Bilinear
/-!
# C01 — Pairing is bilinear, non-degenerate and trivial on the identity

**Every clause is a theorem** (for all valid `P`, `P'` of `E(Fq)` and all `Q`, `Q'` of `⟨P2⟩`, in any Jacobian
representation, identities and zero scalars included, all three entry points):

* `bilinear` / `fast_bilinear` / `prepared_bilinear`: `e(aP, bQ) = e(P,Q)^(ab)` (as integer power and as `Gt::pow` of the
  product in `Fr`);
* `additive_left…`, `additive_right…`: `e(P+P', Q) = e(P,Q)·e(P',Q)`, `e(P, Q+Q') = e(P,Q)·e(P,Q')`;
* identity inputs in *any* representation `(x, y, 0)` give one; the pairing of the generators is not one (kernel evaluation);
  every pairing value `g` satisfies `g^(r−1)·g = 1`.
-/
namespace Sm9.C01

theorem pairing_identity_left (p : G1) (qv : G2) (h : p.z = 0) : Api.pairing p qv = .ok Fq12.one :=
  pairing_left_identity p qv h
theorem pairing_identity_right (p : G1) (qv : G2) (h : qv.z = Fq2.zero) : Api.pairing p qv = .ok Fq12.one :=
  pairing_right_identity p qv h
theorem fast_pairing_identity_left (p : G1) (qv : G2) (h : p.z = 0) : Api.fast_pairing p qv = .ok Fq12.one :=
  fast_pairing_left_identity p qv h
theorem fast_pairing_identity_right (p : G1) (qv : G2) (h : qv.z = Fq2.zero) :
    Api.fast_pairing p qv = .ok Fq12.one := fast_pairing_right_identity p qv h
theorem prepared_pairing_identity_left (p : G1) (qv : G2) (h : p.z = 0) :
    (do let pr ← Api.prepare qv; Api.preparedPairing pr p) = .ok Fq12.one :=
  prepared_pairing_left_identity p qv h
theorem prepared_pairing_identity_right (p : G1) (qv : G2) (h : qv.z = Fq2.zero) :
    (do let pr ← Api.prepare qv; Api.preparedPairing pr p) = .ok Fq12.one :=
  prepared_pairing_right_identity p qv h
/-- e(P,Q)^(ab) on the right-hand side of bilinearity is the integer power -/
theorem gt_pow_is_power (g : Fq12) (a : Fr) : Api.gtPow g a = g ^ a.val := Fq12.pow_eq g a.val

/-- every value produced by a final exponentiation — hence every pairing value of every entry
    point — satisfies g^(r−1)·g = 1 -/
theorem pairing_value_order (f g : Fq12) (h : f.final_exp = .ok (some g)) : g ^ (r - 1) * g = 1 :=
  (Sm9.gt_order f g h).2
theorem pairing_value_order_fe (f g : Fq12) (h : f.final_exponentiation = .ok (some g)) : g ^ r = 1 :=
  Sm9.gt_order_fe f g h
/-- the pairing of the two generators is not one: `fast_pairing` by kernel evaluation, `pairing` because the two
    entry points agree on valid inputs (C03) -/
theorem generators_nondegenerate :
    Api.pairing G.one G.one ≠ .ok Fq12.one ∧ Api.fast_pairing G.one G.one ≠ .ok Fq12.one := by
  have h : Api.fast_pairing G.one G.one ≠ .ok Fq12.one := by decide +kernel
  exact ⟨Miller.api_pairing_eq_fast_pairing _ _ G1.one_valid G2.one_valid 1 (one_nsmul _).symm ▸ h, h⟩

section fragments
variable (P : G1) (Q : G2) (hPz : P.z ≠ 0) (hPv : G1.Valid P) (hQz : Q.z ≠ 0) (hQv : G2.Valid Q)
  (k : Nat) (hk : G2.toAff Q = k • G2.toAff (G.one : G2))
include hPz hPv hQz hQv hk

/-- `e(−P, Q) · e(P, Q) = 1` — bilinearity with `a = r−1` on the left, `fast_pairing` -/
theorem fast_pairing_neg_left :
    ∃ g g', Api.fast_pairing P Q = .ok g ∧ Api.fast_pairing P.neg Q = .ok g' ∧ g' * g = 1 :=
  Miller.computesPair_fast.neg_left P Q hPv hQv (Miller.inG2_of_multiple k hk)
/-- `e(P, −Q) · e(P, Q) = 1` — bilinearity with `b = r−1` on the right, `fast_pairing` -/
theorem fast_pairing_neg_right :
    ∃ g g', Api.fast_pairing P Q = .ok g ∧ Api.fast_pairing P Q.neg = .ok g' ∧ g' * g = 1 :=
  Miller.computesPair_fast.neg_right P Q hPv hQv (Miller.inG2_of_multiple k hk)
theorem fast_pairing_neg_neg : Api.fast_pairing P.neg Q.neg = Api.fast_pairing P Q :=
  Miller.computesPair_fast.neg_neg P Q hPv hQv (Miller.inG2_of_multiple k hk)
/-- the same for `pairing()` (the signed-digit numerator/denominator loop) -/
theorem pairing_neg_left : ∃ g g', Api.pairing P Q = .ok g ∧ Api.pairing P.neg Q = .ok g' ∧ g' * g = 1 :=
  Miller.api_pairing_neg_left P Q hPv hQv k hk
theorem pairing_neg_right : ∃ g g', Api.pairing P Q = .ok g ∧ Api.pairing P Q.neg = .ok g' ∧ g' * g = 1 :=
  Miller.api_pairing_neg_right P Q hPv hQv k hk
theorem pairing_neg_neg : Api.pairing P.neg Q.neg = Api.pairing P Q :=
  Miller.computesPair_pairing.neg_neg P Q hPv hQv (Miller.inG2_of_multiple k hk)
/-- the same for the prepared API -/
theorem prepared_pairing_neg_left :
    ∃ g g', (do let pr ← Api.prepare Q; Api.preparedPairing pr P) = .ok g ∧
      (do let pr ← Api.prepare Q; Api.preparedPairing pr P.neg) = .ok g' ∧ g' * g = 1 :=
  Miller.computesPair_prepared.neg_left P Q hPv hQv (Miller.inG2_of_multiple k hk)
theorem prepared_pairing_neg_right :
    ∃ g g', (do let pr ← Api.prepare Q; Api.preparedPairing pr P) = .ok g ∧
      (do let pr ← Api.prepare Q.neg; Api.preparedPairing pr P) = .ok g' ∧ g' * g = 1 :=
  Miller.computesPair_prepared.neg_right P Q hPv hQv (Miller.inG2_of_multiple k hk)

/-- `e(P, [q]Q) = e(P, Q)^q` — bilinearity with the scalar `b = q mod r` on the right (`Q.mul qFr` is the model's
    own scalar multiplication), all three entry points; `g^q = g^(q mod r)` because `g^r = 1` -/
theorem fast_pairing_mul_q :
    ∃ g, Api.fast_pairing P Q = .ok g ∧ g ^ r = 1 ∧ Api.fast_pairing P (Q.mul Miller.qFr) = .ok (g ^ Miller.qFr.val) :=
  Miller.computesPair_fast.mul_qFr P Q hPv hQv (Miller.inG2_of_multiple k hk)
theorem pairing_mul_q :
    ∃ g, Api.pairing P Q = .ok g ∧ g ^ r = 1 ∧ Api.pairing P (Q.mul Miller.qFr) = .ok (g ^ Miller.qFr.val) :=
  Miller.computesPair_pairing.mul_qFr P Q hPv hQv (Miller.inG2_of_multiple k hk)
theorem prepared_pairing_mul_q :
    ∃ g, (do let pr ← Api.prepare Q; Api.preparedPairing pr P) = .ok g ∧ g ^ r = 1 ∧
      (do let pr ← Api.prepare (Q.mul Miller.qFr); Api.preparedPairing pr P) = .ok (g ^ Miller.qFr.val) :=
  Miller.computesPair_prepared.mul_qFr P Q hPv hQv (Miller.inG2_of_multiple k hk)
/-- the twist Frobenius the code itself computes (`q_power_frobenius`) raises every entry point to the `q`-th power -/
theorem pairings_q_power_frobenius :
    ∃ Q', G2m.q_power_frobenius Q (Fq2.new pi1 0) = some Q' ∧
      (∃ g, Api.fast_pairing P Q = .ok g ∧ Api.fast_pairing P Q' = .ok (g ^ q)) ∧
      (∃ g, (do let pr ← Api.prepare Q; Api.preparedPairing pr P) = .ok g ∧
        (do let pr ← Api.prepare Q'; Api.preparedPairing pr P) = .ok (g ^ q)) ∧
      (∃ g, Api.pairing P Q = .ok g ∧ Api.pairing P Q' = .ok (g ^ q)) :=
  Miller.api_pairings_q_power_frobenius P Q hPv hQz hQv k hk
/-- every value of `fast_pairing` / `pairing` on this domain has order dividing `r` -/
theorem fast_pairing_order (g : Fq12) (hg : Api.fast_pairing P Q = .ok g) : g ^ r = 1 :=
  Miller.computesPair_fast.pow_r P Q hPv hQv (Miller.inG2_of_multiple k hk) g hg
theorem pairing_order (g : Fq12) (hg : Api.pairing P Q = .ok g) : g ^ r = 1 :=
  Miller.computesPair_pairing.pow_r P Q hPv hQv (Miller.inG2_of_multiple k hk) g hg
end fragments

example : ({ x := Fq.ofNat 4, y := Fq.ofNat (q - 8), z := 0 } : G1).z = 0 := rfl

section bilinear
variable (P : G1) (Q : G2) (hP : G1.Valid P) (hQ : G2.Valid Q) (k : Nat) (hk : G2.toAff Q = k • G2.toAff (G.one : G2))
include hP hQ hk

/-- **`e(aP, bQ) = e(P, Q)^(ab)`** for `pairing()`: as an integer power and as `Gt::pow` with the product in `Fr` -/
theorem bilinear (a b : Fr) :
    ∃ g, Api.pairing P Q = .ok g ∧ Api.pairing (P.mul a) (Q.mul b) = .ok (g ^ (a.val * b.val)) ∧
      Api.pairing (P.mul a) (Q.mul b) = .ok (Api.gtPow g (a * b)) :=
  Miller.computesPair_pairing.bilinear P Q hP hQ (Miller.inG2_of_multiple k hk) a b
/-- the same for `fast_pairing()` -/
theorem fast_bilinear (a b : Fr) :
    ∃ g, Api.fast_pairing P Q = .ok g ∧ Api.fast_pairing (P.mul a) (Q.mul b) = .ok (g ^ (a.val * b.val)) ∧
      Api.fast_pairing (P.mul a) (Q.mul b) = .ok (Api.gtPow g (a * b)) :=
  Miller.computesPair_fast.bilinear P Q hP hQ (Miller.inG2_of_multiple k hk) a b
/-- the same for `G2Prepared::from(Q).pairing(&P)` -/
theorem prepared_bilinear (a b : Fr) :
    ∃ g, (do let pr ← Api.prepare Q; Api.preparedPairing pr P) = .ok g ∧
      (do let pr ← Api.prepare (Q.mul b); Api.preparedPairing pr (P.mul a)) = .ok (g ^ (a.val * b.val)) ∧
      (do let pr ← Api.prepare (Q.mul b); Api.preparedPairing pr (P.mul a)) = .ok (Api.gtPow g (a * b)) :=
  Miller.computesPair_prepared.bilinear P Q hP hQ (Miller.inG2_of_multiple k hk) a b
/-- **`e(P + P', Q) = e(P, Q)·e(P', Q)`**, all three entry points -/
theorem additive_left (P' : G1) (hP' : G1.Valid P') :
    (∃ g g', Api.pairing P Q = .ok g ∧ Api.pairing P' Q = .ok g' ∧ Api.pairing (P.add P') Q = .ok (g * g')) ∧
    (∃ g g', Api.fast_pairing P Q = .ok g ∧ Api.fast_pairing P' Q = .ok g' ∧
      Api.fast_pairing (P.add P') Q = .ok (g * g')) ∧
    (∃ g g', (do let pr ← Api.prepare Q; Api.preparedPairing pr P) = .ok g ∧
      (do let pr ← Api.prepare Q; Api.preparedPairing pr P') = .ok g' ∧
      (do let pr ← Api.prepare Q; Api.preparedPairing pr (P.add P')) = .ok (g * g')) :=
  have hG := Miller.inG2_of_multiple k hk
  ⟨Miller.computesPair_pairing.add_left P Q hP hQ hG P' hP', Miller.computesPair_fast.add_left P Q hP hQ hG P' hP',
   Miller.computesPair_prepared.add_left P Q hP hQ hG P' hP'⟩
/-- **`e(P, Q + Q') = e(P, Q)·e(P, Q')`**, all three entry points -/
theorem additive_right (Q' : G2) (hQ' : G2.Valid Q') (k' : Nat) (hk' : G2.toAff Q' = k' • G2.toAff (G.one : G2)) :
    (∃ g g', Api.pairing P Q = .ok g ∧ Api.pairing P Q' = .ok g' ∧ Api.pairing P (Q.add Q') = .ok (g * g')) ∧
    (∃ g g', Api.fast_pairing P Q = .ok g ∧ Api.fast_pairing P Q' = .ok g' ∧
      Api.fast_pairing P (Q.add Q') = .ok (g * g')) ∧
    (∃ g g', (do let pr ← Api.prepare Q; Api.preparedPairing pr P) = .ok g ∧
      (do let pr ← Api.prepare Q'; Api.preparedPairing pr P) = .ok g' ∧
      (do let pr ← Api.prepare (Q.add Q'); Api.preparedPairing pr P) = .ok (g * g')) :=
  have hG := Miller.inG2_of_multiple k hk
  have hG' := Miller.inG2_of_multiple k' hk'
  ⟨Miller.computesPair_pairing.add_right P Q hP hQ hG Q' hQ' hG', Miller.computesPair_fast.add_right P Q hP hQ hG Q' hQ' hG',
   Miller.computesPair_prepared.add_right P Q hP hQ hG Q' hQ' hG'⟩
/-- no entry point panics on valid inputs, and every value (identities included) has order dividing `r` -/
theorem pairing_total_and_order : ∃ g, Api.pairing P Q = .ok g ∧ g ^ r = 1 := by
  have hG := Miller.inG2_of_multiple k hk
  obtain ⟨g, hg⟩ := Miller.computesPair_pairing.total P Q hP hQ hG
  exact ⟨g, hg, Miller.computesPair_pairing.pow_r P Q hP hQ hG g hg⟩
end bilinear

example : ∃ g, Api.pairing (G.one : G1) (G.one : G2) = .ok g ∧
    Api.pairing ((G.one : G1).mul 2) ((G.one : G2).mul (-1)) = .ok (g ^ ((2 : Fr).val * (-1 : Fr).val)) := by
  obtain ⟨g, h1, h2, _⟩ := bilinear _ _ G1.one_valid G2.one_valid 1 (one_nsmul _).symm 2 (-1)
  exact ⟨g, h1, h2⟩

/-! ## non-degeneracy on all of `⟨P1⟩ × ⟨P2⟩`

With `g₀ = e(P1, P2) ≠ 1` (kernel evaluation), `g₀^r = 1` and `r` prime, bilinearity gives: `e([a]P1, [b]P2) = g₀^(ab)` is one
exactly when `a = 0` or `b = 0` in `Z_r`. -/
theorem nondegenerate (P : G1) (Q : G2) (hP : G1.Valid P) (hQ : G2.Valid Q) (a b : Fr)
    (ha : G1.toAff P = a.val • G1.toAff (G.one : G1)) (hb : G2.toAff Q = b.val • G2.toAff (G.one : G2)) :
    Api.pairing P Q = .ok Fq12.one ↔ (a = 0 ∨ b = 0) := by
  rw [Miller.api_pairing_of_logs P Q hP hQ _ _ ha hb]
  generalize hg : Miller.pair (G1.toAff (G.one : G1)) (G2.toAff (G.one : G2)) = g0
  have hne : g0 ≠ 1 := by
    rintro rfl
    apply generators_nondegenerate.1
    rw [Miller.api_pairing_eq_pair _ _ G1.one_valid G2.one_valid Miller.inG2_gen, hg]
    rfl
  have hord : orderOf g0 = r := orderOf_eq_prime (hg ▸ Miller.pair_pow_r _ _) hne
  show Outcome.ok (g0 ^ (a.val * b.val)) = Outcome.ok 1 ↔ _
  rw [Outcome.ok.injEq, ← orderOf_dvd_iff_pow_eq_one, hord, Nat.Prime.dvd_mul r_prime]
  exact or_congr ⟨fun h => Fin.ext (Nat.eq_zero_of_dvd_of_lt h a.isLt), fun h => h ▸ dvd_zero r⟩
    ⟨fun h => Fin.ext (Nat.eq_zero_of_dvd_of_lt h b.isLt), fun h => h ▸ dvd_zero r⟩

end Sm9.C01
