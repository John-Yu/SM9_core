import Sm9.Proofs.ChainIndepSm9
import Sm9.Proofs.SpecRate
/-!
# C02 — Pairing values equal the SM9 R-ate pairing, byte for byte

Theorems: the loop constants are the signed-digit and binary expansions of 6t+2 for the
SM9 parameter t; the serialisation order is c2‖c1‖c0 with the high coefficient first at
every level; and the published test vector of the standard's key-agreement example
(inputs and expected value as in `pairings.rs::test_pairing`) is reproduced by **both**
model pairings by kernel evaluation.

For every `P ≠ O` on `E(Fq)` and every `Q ≠ O` in `⟨P2⟩`, in any Jacobian representatives, all three entry points return
`specMiller(P, Q)^((q^12−1)/r)` (`fast_pairing_is_rate_pairing`, `prepared_pairing_is_rate_pairing`,
`pairing_is_rate_pairing`), where `Miller.specMiller` is the textbook definition over Mathlib's Weierstrass point group
of the twist: `f_{6t+2,Q}(P)` by the double-and-add chain with line values `y_P − λ·x_P·w⁻¹ + (λ·x_T − y_T)·w⁻³`, times
`l_{[6t+2]Q, π(Q)}(P)` and `l_{[6t+2]Q+π(Q), −π²(Q)}(P)`, `π` the `q`-Frobenius transported to the twist.  `pairing()`
walks the signed-digit chain (`pairing_is_rate_pairing_signed_chain`; its numerator/denominator loop returns exactly
`−specMillerNaf`), and the two textbook functions have the same reduced value (`chain_independence`).  The value is the
one the independent implementation `Sm9.Spec.rate` computes (`pairing_equals_independent_implementation`).
-/
namespace Sm9.C02

theorem loop_constants : Consts.SM9_LOOP_N = 6 * tParam + 2 ∧
    signedDigitsVal Consts.SM9_LOOP_COUNT = (Consts.SM9_LOOP_N : Int) ∧ Consts.SM9_S = tParam :=
  ⟨loopN_eq, loop_count_eval, S_eq⟩
theorem curve_parameters : Consts.FQ = 36*tParam^4 + 36*tParam^3 + 24*tParam^2 + 6*tParam + 1 ∧
    Consts.FR = 36*tParam^4 + 36*tParam^3 + 18*tParam^2 + 6*tParam + 1 := ⟨q_poly, r_poly⟩
/-- serialisation order c2‖c1‖c0, each Fq4 as c1‖c0, each Fq2 as imaginary‖real -/
theorem to_slice_order (g : Fq12) :
    Api.fq12ToSlice g = Api.fq4ToSlice g.c2 ++ Api.fq4ToSlice g.c1 ++ Api.fq4ToSlice g.c0 := rfl
theorem to_slice_order4 (g : Fq4) : Api.fq4ToSlice g = Api.fq2ToSlice g.c1 ++ Api.fq2ToSlice g.c0 := rfl
theorem to_slice_order2 (g : Fq2) : Api.fq2ToSlice g = Api.fqToSlice g.c1 ++ Api.fqToSlice g.c0 := rfl

/-! the standard's vector (pairings.rs `test_pairing`) -/
def kaP : G1 := { x := Fq.ofNat 0x7CBA5B19069EE66AA79D490413D11846B9BA76DD22567F809CF23B6D964BB265, y := Fq.ofNat 0xA9760C99CB6F706343FED05637085864958D6C90902ABA7D405FBEDF7B781599, z := 1 }
def kaQ : G2 := { x := Fq2.new (Fq.ofNat 0x01092FF4DE89362670C21711B6DBE52DCD5F8E40C6654B3DECE573C2AB3D29B2) (Fq.ofNat 0x74CCC3AC9C383C60AF083972B96D05C75F12C8907D128A17ADAFBAB8C5A4ACF7), y := Fq2.new (Fq.ofNat 0x8CFC48FB4FF37F1E27727464F3C34E2153861AD08E972D1625FC1A7BD18D5539) (Fq.ofNat 0x44B0294AA04290E1524FF3E3DA8CFD432BB64DE3A8040B5B88D1B5FC86A4EBC1), z := Fq2.one }
def kaExpected : Fq12 :=
  { c0 := { c0 := Fq2.new (Fq.ofNat 0x6BA584CE742A2A3AB41C15D3EF94EDEB8EF74A2BDCDAAECC09ABA567981F6437) (Fq.ofNat 0x9B1CA08F64712E33AEDA3F44BD6CB633E0F722211E344D73EC9BBEBC92142765), c1 := Fq2.new (Fq.ofNat 0x861CCD9978617267CE4AD9789F77739E62F2E57B48C2FF26D2E90A79A1D86B93) (Fq.ofNat 0x8C8E9D8D905780D50E779067F2C4B1C8F83A8B59D735BB52AF35F56730BDE5AC) },
    c1 := { c0 := Fq2.new (Fq.ofNat 0x0F63A071A6D62EA45B59A1942DFF5335D1A232C9C5664FAD5D6AF54C11418B0D) (Fq.ofNat 0x73F21693C66FC23724DB26380C526223C705DAF6BA18B763A68623C86A632B05), c1 := Fq2.new (Fq.ofNat 0x647BA154C3E8E185DFC33657C1F128D480F3F7E3F16801208029E19434C733BB) (Fq.ofNat 0x4FEC93472DA33A4DB6599095C0CF895E3A7B993EE5E4EBE3B9AB7D7D5FF2A3D1) },
    c2 := { c0 := Fq2.new (Fq.ofNat 0x3497477913AB89F5E2960F382B1B5C8EE09DE0FA498BA95C4409D630D343DA40) (Fq.ofNat 0xA1ABFCD30C57DB0F1A838E3A8F2BF823479C978BD137230506EA6249C891049E), c1 := Fq2.new (Fq.ofNat 0x5E27C19FC02ED9AE37F5BB7BE9C03C2B87DE027539CCF03E6B7D36DE4AB45CD1) (Fq.ofNat 0x28542FB6954C84BE6A5F2988A31CB6817BA0781966FA83D9673A9577D3C0C134) } }

theorem known_answer_pairing : Api.pairing kaP kaQ = .ok kaExpected := by decide +kernel
theorem known_answer_fast_pairing : Api.fast_pairing kaP kaQ = .ok kaExpected := by decide +kernel

open Miller in
/-- the prepared Miller loop (`G2Prepared::from` then `G2Prepared::miller_loop`) returns the textbook
    Miller function times a non-zero element of the subfield `Fq2` -/
theorem prepared_miller_is_textbook (xP yP : Fq) (xQ yQ : Fq2) (hQ : yQ * yQ = xQ * xQ * xQ + b2)
    (k : Nat) (hk : twPt (xQ, yQ) = k • twPt genXY) :
    ∃ κ : Fq2, κ ≠ 0 ∧
      (do let pr ← G2Prepared.from_ (⟨xQ, yQ, 1⟩ : G2); pr.miller_loop (⟨xP, yP, 1⟩ : G1))
        = .ok (Fq12.ofFq2 κ * specMiller xP yP xQ yQ) :=
  prepared_miller_eq_spec_G2 xP yP xQ yQ hQ k hk
open Miller in
/-- such a factor is removed by the final exponentiation: `(q²−1) ∣ (q¹²−1)/r` -/
theorem subfield_factor_removed (κ : Fq2) (hκ : κ ≠ 0) : Fq12.ofFq2 κ ^ ((q ^ 12 - 1) / r) = 1 :=
  ofFq2_pow_final κ hκ
open Miller in
/-- **`fast_pairing` is the SM9 R-ate pairing** on all of `(E(Fq) ∖ O) × (⟨P2⟩ ∖ O)`, for any
    Jacobian representatives -/
theorem fast_pairing_is_rate_pairing (P : G1) (Q : G2) (hPz : P.z ≠ 0) (hPv : G1.Valid P) (hQz : Q.z ≠ 0)
    (hQv : G2.Valid Q) (k : Nat) (hk : G2.toAff Q = k • G2.toAff (G.one : G2)) :
    Api.fast_pairing P Q
      = .ok (specMiller (P.x / P.z ^ 2) (P.y / P.z ^ 3) (Q.x / Q.z ^ 2) (Q.y / Q.z ^ 3) ^ ((q ^ 12 - 1) / r)) :=
  api_fast_pairing_eq_spec_G2 P Q hPz hPv hQz hQv k hk
open Miller in
/-- the same for `G2Prepared::from(Q).pairing(&P)` -/
theorem prepared_pairing_is_rate_pairing (P : G1) (Q : G2) (hPz : P.z ≠ 0) (hPv : G1.Valid P) (hQz : Q.z ≠ 0)
    (hQv : G2.Valid Q) (k : Nat) (hk : G2.toAff Q = k • G2.toAff (G.one : G2)) :
    (do let pr ← Api.prepare Q; Api.preparedPairing pr P)
      = .ok (specMiller (P.x / P.z ^ 2) (P.y / P.z ^ 3) (Q.x / Q.z ^ 2) (Q.y / Q.z ^ 3) ^ ((q ^ 12 - 1) / r)) :=
  (api_prepared_eq_fast P Q).trans (api_fast_pairing_eq_spec_G2 P Q hPz hPv hQz hQv k hk)
open Miller in
/-- **`pairing()` is the reduced textbook Miller function of the signed-digit chain** on all of
    `(E(Fq) ∖ O) × (⟨P2⟩ ∖ O)`, for any Jacobian representatives -/
theorem pairing_is_rate_pairing_signed_chain (P : G1) (Q : G2) (hPz : P.z ≠ 0) (hPv : G1.Valid P) (hQz : Q.z ≠ 0)
    (hQv : G2.Valid Q) (k : Nat) (hk : G2.toAff Q = k • G2.toAff (G.one : G2)) :
    Api.pairing P Q
      = .ok (specMillerNaf (P.x / P.z ^ 2) (P.y / P.z ^ 3) (Q.x / Q.z ^ 2) (Q.y / Q.z ^ 3) ^ ((q ^ 12 - 1) / r)) :=
  api_pairing_eq_spec_G2 P Q hPz hPv hQz hQv k hk
open Miller in
/-- the numerator/denominator loop returns exactly minus the textbook function of its chain -/
theorem signed_chain_miller_is_textbook (P : G1) (xQ yQ : Fq2) (hQ : yQ * yQ = xQ * xQ * xQ + b2)
    (k : Nat) (hk : twPt (xQ, yQ) = k • twPt genXY) :
    G2m.miller_loop (⟨xQ, yQ, 1⟩ : G2) P = .ok (-specMillerNaf P.x P.y xQ yQ) :=
  naf_miller_eq_spec_G2 P xQ yQ hQ k hk
open Miller in
/-- the entry points agree on an input exactly when the two textbook Miller functions (binary chain,
    signed-digit chain) have the same reduced value there -/
theorem pairing_agreement_iff_chain_independence (P : G1) (Q : G2) (hPz : P.z ≠ 0) (hPv : G1.Valid P)
    (hQz : Q.z ≠ 0) (hQv : G2.Valid Q) (k : Nat) (hk : G2.toAff Q = k • G2.toAff (G.one : G2)) :
    Api.pairing P Q = Api.fast_pairing P Q ↔
      specMillerNaf (P.x / P.z ^ 2) (P.y / P.z ^ 3) (Q.x / Q.z ^ 2) (Q.y / Q.z ^ 3) ^ ((q ^ 12 - 1) / r)
        = specMiller (P.x / P.z ^ 2) (P.y / P.z ^ 3) (Q.x / Q.z ^ 2) (Q.y / Q.z ^ 3) ^ ((q ^ 12 - 1) / r) :=
  api_pairing_eq_fast_pairing_iff P Q hPz hPv hQz hQv k hk
open Miller in
/-- **independence of the Miller function of the addition chain**: the two textbook functions (signed-digit
    chain of `G2::miller_loop`, binary chain of `G2Prepared::from`) have the same reduced value for every
    `P` of `E(Fq)` and every multiple `Q ≠ O` of `P2`. -/
theorem chain_independence (xP yP : Fq) (hP : yP * yP = xP * xP * xP + b1) (xQ yQ : Fq2)
    (hQ : yQ * yQ = xQ * xQ * xQ + b2) (k : Nat) (hk : twPt (xQ, yQ) = k • twPt genXY) :
    specMillerNaf xP yP xQ yQ ^ ((q ^ 12 - 1) / r) = specMiller xP yP xQ yQ ^ ((q ^ 12 - 1) / r) :=
  specMillerNaf_reduced_eq_specMiller_reduced xP yP hP xQ yQ hQ k hk
open Miller in
/-- **`pairing()` is the SM9 R-ate pairing** (binary-chain textbook definition, the same right-hand side as
    `fast_pairing_is_rate_pairing`) on all of `(E(Fq) ∖ O) × (⟨P2⟩ ∖ O)`, for any Jacobian representatives -/
theorem pairing_is_rate_pairing (P : G1) (Q : G2) (hPz : P.z ≠ 0) (hPv : G1.Valid P) (hQz : Q.z ≠ 0)
    (hQv : G2.Valid Q) (k : Nat) (hk : G2.toAff Q = k • G2.toAff (G.one : G2)) :
    Api.pairing P Q
      = .ok (specMiller (P.x / P.z ^ 2) (P.y / P.z ^ 3) (Q.x / Q.z ^ 2) (Q.y / Q.z ^ 3) ^ ((q ^ 12 - 1) / r)) :=
  (api_pairing_eq_fast_pairing P Q hPv hQv k hk).trans (api_fast_pairing_eq_spec_G2 P Q hPz hPv hQz hQv k hk)
open Miller in
/-- all three entry points return the same value on every valid input (identities included) -/
theorem entry_points_agree (P : G1) (Q : G2) (hPv : G1.Valid P) (hQv : G2.Valid Q)
    (k : Nat) (hk : G2.toAff Q = k • G2.toAff (G.one : G2)) :
    Api.pairing P Q = Api.fast_pairing P Q ∧
    (do let pr ← Api.prepare Q; Api.preparedPairing pr P) = Api.fast_pairing P Q :=
  ⟨api_pairing_eq_fast_pairing P Q hPv hQv k hk, api_prepared_eq_fast P Q⟩
open Miller SpecField in
/-- **the pairing value equals the one computed by the independent textbook implementation** (`Sm9.Spec.rate`, the executable
    oracle of the correspondence run: affine chord-and-tangent on the twist, schoolbook `F_q[w]/(w¹²+2)`, the binary Miller loop
    over `6t+2` with literal `q`-th powers for the Frobenius and the literal exponent `(q¹²−1)/r`, written without reference to
    the crate or the model).  For every valid `P ≠ O`, `Q ≠ O` of `⟨P2⟩` in any representation all three entry points return a `g`
    whose flattening is exactly what the oracle returns on the affine coordinates (Proofs/SpecField, SpecCurve, SpecRate.lean). -/
theorem pairing_equals_independent_implementation (P : G1) (Q : G2) (hPz : P.z ≠ 0) (hPv : G1.Valid P) (hQz : Q.z ≠ 0)
    (hQv : G2.Valid Q) (k : Nat) (hk : G2.toAff Q = k • G2.toAff (G.one : G2)) :
    ∃ g : Fq12, Api.pairing P Q = .ok g ∧ Api.fast_pairing P Q = .ok g ∧
      (do let pr ← Api.prepare Q; Api.preparedPairing pr P) = .ok g ∧
      Spec.rate (some ((P.x / P.z ^ 2).val, (P.y / P.z ^ 3).val))
        (some (toQ2 (Q.x / Q.z ^ 2), toQ2 (Q.y / Q.z ^ 3))) = some (toF12 g) := by
  refine ⟨_, pairing_is_rate_pairing P Q hPz hPv hQz hQv k hk, fast_pairing_is_rate_pairing P Q hPz hPv hQz hQv k hk,
    prepared_pairing_is_rate_pairing P Q hPz hPv hQz hQv k hk, ?_⟩
  obtain ⟨he, hpt⟩ := twPt_of_valid Q hQz hQv
  exact SpecRate.spec_rate_eq _ _ (Jac.affine_equation hPv hPz) _ _ he k (twPt_gen ▸ hpt.trans hk)
/-- identities: the oracle returns one as well -/
theorem identity_equals_independent_implementation (Pa : Spec.Pt Nat) (Qa : Spec.Pt Spec.Q2) :
    Spec.rate none Qa = some (SpecField.toF12 1) ∧ Spec.rate Pa none = some (SpecField.toF12 1) :=
  ⟨SpecRate.spec_rate_none_left Qa, SpecRate.spec_rate_none_right Pa⟩
open Miller in
/-- the textbook line value in the tower basis is `y_P − λ·x_P·w⁻¹ + (λ·x_T − y_T)·w⁻³` -/
theorem line_value_formula (xT yT lam : Fq2) (xP yP : Fq) :
    lineSpec xT yT lam xP yP
      = Fq12.ofFq yP - Fq12.ofFq2 lam * Fq12.ofFq xP * Fq12.w⁻¹ + Fq12.ofFq2 (lam * xT - yT) * (Fq12.w ^ 3)⁻¹ :=
  lineSpec_eq_w xT yT lam xP yP
open Miller in
/-- the Frobenius used for the two correction lines is the `q`-power map transported to the twist -/
theorem frobenius_on_twist (p : Fq2 × Fq2) :
    Fq12.ofFq2 (frobTwist p).1 * (Fq12.w ^ 2)⁻¹ = (Fq12.ofFq2 p.1 * (Fq12.w ^ 2)⁻¹) ^ q ∧
    Fq12.ofFq2 (frobTwist p).2 * (Fq12.w ^ 3)⁻¹ = (Fq12.ofFq2 p.2 * (Fq12.w ^ 3)⁻¹) ^ q :=
  ⟨frobTwist_untwist_x p, frobTwist_untwist_y p⟩
open Miller in
example (xP yP : Fq) (hyP : yP ≠ 0) :
    Pairings.fast_pairing (⟨xP, yP, 1⟩ : G1) (G.one : G2)
      = .ok (specMiller xP yP genXY.1 genXY.2 ^ ((q ^ 12 - 1) / r)) := fast_pairing_generator xP yP hyP

end Sm9.C02
