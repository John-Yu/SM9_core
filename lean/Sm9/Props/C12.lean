import Sm9.Proofs.Tower
import Sm9.Proofs.SpecField
import Sm9.Proofs.TowerField
import Sm9.Proofs.MontSop
import Sm9.Model.Api
/-!
# C12 — Fq2 arithmetic is arithmetic in Fq[u]/(u²+2)

The ring structure is put on the model's own `add_inplace / sub_inplace / neg_inplace /
mul_inplace` (the two interleaved sums of products), so each law below is a statement
about the multiplication algorithm as coded, for all x, y, z.  At limb level the interleaved
sum-of-products (Longa's Algorithm 2 as coded: four accumulate/reduce rounds, `add_carry` folded
u4 times, one final conditional subtraction) terminates and returns the canonical
representative of Σ aᵢ·bᵢ·R⁻¹ mod q, for up to four pairs of arbitrary reduced operands.
-/
namespace Sm9.C12

/-- multiplication is the product in Fq[u]/(u²+2): (a0+a1u)(b0+b1u) = (a0b0 − 2a1b1) + (a0b1+a1b0)u -/
theorem mul_formula (x y : Fq2) :
    x * y = { c0 := x.c0 * y.c0 - 2 * (x.c1 * y.c1), c1 := x.c0 * y.c1 + x.c1 * y.c0 } := by
  ext <;> simp <;> ring
theorem add_formula (x y : Fq2) : x + y = { c0 := x.c0 + y.c0, c1 := x.c1 + y.c1 } := rfl
theorem sub_formula (x y : Fq2) : x - y = { c0 := x.c0 - y.c0, c1 := x.c1 - y.c1 } := rfl
theorem neg_formula (x : Fq2) : -x = { c0 := -x.c0, c1 := -x.c1 } := rfl
theorem u_squared : (Fq2.i * Fq2.i : Fq2) = -2 := by
  rw [Fq2.i_sq]; ring
theorem mul_comm_law (x y : Fq2) : x * y = y * x := mul_comm x y
theorem mul_assoc_law (x y z : Fq2) : x * y * z = x * (y * z) := mul_assoc x y z
theorem left_distrib_law (x y z : Fq2) : x * (y + z) = x * y + x * z := mul_add x y z
theorem one_mul_law (x : Fq2) : 1 * x = x := one_mul x
/-- the squaring used inside point and pairing arithmetic agrees with the product -/
theorem squared_eq_mul (x : Fq2) : x.squared = x * x := Fq2.squared_eq_mul x
theorem mul_by_nonresidue_eq (x : Fq2) : x.mul_by_nonresidue = x * Fq2.i := Fq2.mul_by_nonresidue_eq x
theorem scale_eq (x : Fq2) (k : Fq) : x.scale k = x * Fq2.new k 0 := Fq2.scale_eq x k
/-- real / imaginary parts, parity and the byte layout (imaginary part first) -/
theorem parts (a b : Fq) : (Fq2.new a b).real = a ∧ (Fq2.new a b).imaginary = b := ⟨rfl, rfl⟩
theorem to_slice_layout (x : Fq2) : Api.fq2ToSlice x = beBytes 32 x.c1.val ++ beBytes 32 x.c0.val := rfl
theorem is_even_real (x : Fq2) : Api.fq2IsEven x = (x.c0.val % 2 == 0) := rfl

/-- limb level: `Fq::sum_of_products` refines Σ aᵢ bᵢ (Montgomery form), result canonical -/
theorem sum_of_products_refines (as bs : List Nat) (hlen : as.length = bs.length) (h4 : as.length ≤ 4)
    (ha : ∀ a ∈ as, a < Consts.FQ) (hb : ∀ b ∈ bs, b < Consts.FQ) :
    ∃ res, FqL.sum_of_products as bs = some res ∧ res < Consts.FQ ∧
      (res * W256) % Consts.FQ = ((List.zipWith (· * ·) as bs).sum) % Consts.FQ :=
  FqL.sum_of_products_refines as bs hlen h4 ha hb
/-- … and agrees exactly with the separate multiply-then-add path -/
theorem sum_of_products_eq_mul_add (a0 a1 b0 b1 : Nat) (h0 : a0 < Consts.FQ) (h1 : a1 < Consts.FQ)
    (h2 : b0 < Consts.FQ) (h3 : b1 < Consts.FQ) :
    FqL.sum_of_products [a0, a1] [b0, b1] =
      some (Fp.add FqL.P (Fp.mul FqL.P a0 b0) (Fp.mul FqL.P a1 b1)) :=
  FqL.sum_of_products_eq_mul_add a0 a1 b0 b1 h0 h1 h2 h3
/-- Fq2 is a field; `inverse` is `None` exactly for zero -/
theorem inverse_correct (x : Fq2) (h : x ≠ 0) : ∃ y, x.inverse = some y ∧ y * x = 1 := Fq2.inverse_correct x h
theorem inverse_zero : (0 : Fq2).inverse = none := Fq2.inverse_zero

example : (Fq2.new (Fq.ofNat 3) (Fq.ofNat 5)) * (Fq2.new (Fq.ofNat 7) (Fq.ofNat 11))
    = Fq2.new (Fq.ofNat (q - 89)) (Fq.ofNat 68) := by decide +kernel

/-! ## against the independent implementation of `F_q[u]/(u²+2)`

`Sm9.Spec.Q2` (the oracle of the correspondence run) implements the quadratic extension on pairs of naturals (real, imaginary)
with `u² = −2` written out; `toQ2 x = (x.c0, x.c1)`.  Its operations are the model's (Proofs/SpecField.lean). -/
open Sm9.SpecField in
theorem agrees_with_independent_quadratic_extension (x y : Fq2) :
    Spec.Q2.add (toQ2 x) (toQ2 y) = toQ2 (x + y) ∧ Spec.Q2.sub (toQ2 x) (toQ2 y) = toQ2 (x - y) ∧
    Spec.Q2.mul (toQ2 x) (toQ2 y) = toQ2 (x * y) ∧ Spec.Q2.neg (toQ2 x) = toQ2 (-x) ∧ Spec.Q2.inv (toQ2 x) = toQ2 x⁻¹ :=
  ⟨toQ2_add x y, toQ2_sub x y, toQ2_mul x y, toQ2_neg x, toQ2_inv x⟩

end Sm9.C12
