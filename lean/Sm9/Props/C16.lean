import Sm9.Proofs.Program
import Sm9.Proofs.Program2
import Sm9.Proofs.RepIndep
import Sm9.Proofs.Bilinear
/-!
# C16 — Any history of group operations behaves like arithmetic in Z_r

## The mixed machine (what the differential driver runs)

`Sm9/Model/Prog.lean` defines the register machine `mstep`/`mrun` over a mixed register file
(`Reg := p1 G1 | p2 G2`) with the instructions `one1 one2 zero1 zero2 add sub neg mul normalize
affine encdec` (`encdec i fmt`: encode register i in the raw / 0x04-prefixed / compressed format
and decode it again; the identity is passed through).  `Sm9/Driver/Prog.lean` only parses the
text of a `prog.group` line into `MInstr` and calls `mrun`; its observations are `Reg.eqObs`,
`Reg.isZero`, the affine coordinates and the three pairings of `lastOf`.  The abstract machine
`astep2`/`arun2` tracks (group tag, discrete logarithm in Z_r) and fails only on a bad index
or on operands of different groups.

Proved for **every** program `prog : List MInstr` (any length, any order, both groups):

* `mrun_fails_iff` (no hypothesis): `mrun prog = none ↔ arun2 prog = none` — the machines fail on
  exactly the same programs; in particular no encoder panics and no decoder rejects along a run.
* `mrun_valid` (no hypothesis): if the abstract machine runs, so does the concrete one, and every
  register is a valid point of the order-r subgroup of the group given by the abstract tag.
* `mrun_refines`: moreover register k denotes `d_k • P1` resp. `d_k • P2`, `d_k` the abstract
  register (`RegRel`), **under the hypothesis `G2CompressedSafe prog`**: whenever the *compressed*
  encode/decode round trip is applied to a *G2* register with abstract log `d`, the point `d • P2`
  has `Re y ≠ 0` (`ReYNonzero d`; holds for `d = 0`, for `d = 1`, and is decided for any concrete
  `d` by one kernel evaluation, `reYNonzero_of_compute`).  The decidable condition
  `NoG2Compressed prog` (no compressed round trip of a non-identity G2 value) implies it
  (`mrun_refines_noG2Compressed`).  G1 in all three formats, G2 raw and uncompressed, and every
  other instruction need no hypothesis.
  **Why the hypothesis**: it is not proved that no point of the order-r subgroup of the twist has `Re y = 0`.
  For such a point both roots ±y carry the same sign bit and `G2::from_compressed` returns
  whichever root `Fq2::sqrt` produces, so the round trip yields P or −P (C10
  `g2_compressed_roundtrip_up_to_sign`; here `encDec2_compressed_up_to_sign`); the register is
  still a valid subgroup point (`mrun_valid`) but its log may be `−d`.
* observations are functions of (tag, log): `==` ⇔ equal logs (registers of different groups are not
  comparable), `is_zero` ⇔ log = 0 (P1, P2 have order exactly r), equal affine coordinates and equal encodings
  in all three formats, the three pairing entry points (they give `e(P1,P2)^(ab)`,
  `observe_pairing_from_logs`), and the operands the driver pairs are those of the abstract machine.
  `[d]P1`, `[d]P2` computed from scratch are related to (tag, d), so every register is observationally
  identical to the freshly computed value of the same group element.  (To read register k of two related
  files: `lookup_rel`, `OptRel.of_some`, Proofs/Machine.lean.)

## The one-group machine

`run_refines`: for every program over `one zero add sub neg mul normalize affine` on a register
file of G1 values, register k of `grun` denotes `d_k • P1` with `d_k` register k of `arun`.
-/
namespace Sm9.C16

theorem run_refines (prog : List GInstr) : List.Forall₂ Rel (grun prog : List G1) (arun prog) :=
  Sm9.run_refines prog
theorem observe_eq {P Q : G1} {a b : Fr} (hP : Rel P a) (hQ : Rel Q b) : P.eq Q = true ↔ a = b :=
  Sm9.observe_eq hP hQ
theorem observe_is_zero {P : G1} {a : Fr} (hP : Rel P a) : P.is_zero = true ↔ a = 0 := Sm9.observe_is_zero hP
/-- a value and a freshly computed value of the same group element are indistinguishable by the
    pairing entry points -/
theorem observe_pairing (p p' : G1) (qv : G2) (a : Fr) (hp : Rel p a) (hp' : Rel p' a) (hq : G2.Valid qv) :
    Api.pairing p qv = Api.pairing p' qv ∧ Api.fast_pairing p qv = Api.fast_pairing p' qv := by
  have h : G1.toAff p = G1.toAff p' := by rw [hp.2, hp'.2]
  have e1 := G1.to_affine_congr p p' hp.1 hp'.1 h
  exact ⟨pairing_congr p p' qv qv e1 rfl, fast_pairing_congr p p' qv qv e1 rfl⟩
theorem generator_order : addOrderOf gen1 = r := gen1_addOrderOf
theorem step_sub {F} [FieldElement F] (a b : G F) : a.sub b = a.add b.neg := rfl

/-- P − P followed by a scalar multiplication and an addition -/
example : List.Forall₂ Rel (grun [.one, .sub 0 0, .mul 1 (Fr.ofNat 7), .add 2 0] : List G1)
    (arun [.one, .sub 0 0, .mul 1 (Fr.ofNat 7), .add 2 0]) := Sm9.run_refines _

theorem mrun_fails_iff (prog : List MInstr) : mrun prog = none ↔ arun2 prog = none :=
  Sm9.mrun_fails_iff prog

theorem mrun_valid (prog : List MInstr) (ds : List (Bool × Fr)) (h : arun2 prog = some ds) :
    ∃ regs ds', mrun prog = some regs ∧ List.Forall₂ RegRel regs ds' ∧ ds'.map Prod.fst = ds.map Prod.fst :=
  Sm9.mrun_valid prog ds h

theorem mrun_refines (prog : List MInstr) (hsafe : G2CompressedSafe prog) (ds : List (Bool × Fr))
    (h : arun2 prog = some ds) : ∃ regs, mrun prog = some regs ∧ List.Forall₂ RegRel regs ds :=
  Sm9.mrun_refines prog hsafe ds h

theorem mrun_refines_noG2Compressed (prog : List MInstr) (h : NoG2Compressed prog) (ds : List (Bool × Fr))
    (ha : arun2 prog = some ds) : ∃ regs, mrun prog = some regs ∧ List.Forall₂ RegRel regs ds :=
  Sm9.mrun_refines prog (safe_of_noG2Compressed prog h) ds ha

theorem regRel_p1 (P : G1) (d : Fr) : RegRel (.p1 P) (true, d) ↔ (G1.Valid P ∧ G1.toAff P = d.val • gen1) := Iff.rfl
theorem regRel_p2 (Q : G2) (d : Fr) : RegRel (.p2 Q) (false, d) ↔ (G2.Valid Q ∧ G2.toAff Q = d.val • gen2) := Iff.rfl
theorem generator2_order : addOrderOf gen2 = r := gen2_addOrderOf

theorem encdec_g1 (fmt : Fmt) (P : G1) (hP : G1.Valid P) : encDec1 fmt P = some (Api.normalize P) :=
  encDec1_eq fmt P hP
theorem encdec_g2 (fmt : Fmt) (P : G2) (hP : G2.Valid P) (hsub : r • G2.toAff P = 0)
    (hre : fmt = .compressed → P.z ≠ 0 → (P.y / P.z ^ 3).c0 ≠ 0) : encDec2 fmt P = some (Api.normalize P) :=
  encDec2_eq fmt P hP hsub hre
theorem encdec_g2_compressed_up_to_sign (P : G2) (hP : G2.Valid P) (hsub : r • G2.toAff P = 0) :
    encDec2 .compressed P = some (Api.normalize P) ∨ encDec2 .compressed P = some (Api.normalize P).neg :=
  encDec2_compressed_up_to_sign P hP hsub

theorem observe_reg_eq {A B : Reg} {t : Bool} {a b : Fr} (hA : RegRel A (t, a)) (hB : RegRel B (t, b)) :
    ∃ v, A.eqObs B = some v ∧ (v = true ↔ a = b) := Sm9.observe_reg_eq hA hB
theorem observe_reg_eq_mixed {A B : Reg} {t u : Bool} {a b : Fr} (hA : RegRel A (t, a)) (hB : RegRel B (u, b))
    (htu : t ≠ u) : A.eqObs B = none := by
  obtain ⟨P, rfl, rfl, -⟩ | ⟨P, rfl, rfl, -⟩ := hA.inv <;> obtain ⟨Q, rfl, rfl, -⟩ | ⟨Q, rfl, rfl, -⟩ := hB.inv
  exacts [absurd rfl htu, rfl, rfl, absurd rfl htu]
theorem observe_reg_is_zero {A : Reg} {t : Bool} {a : Fr} (hA : RegRel A (t, a)) :
    A.isZero = true ↔ a = 0 := Sm9.observe_reg_is_zero hA
theorem observe_affine1 {P P' : G1} {d : Fr} (h : Rel1 P d) (h' : Rel1 P' d) :
    P.to_affine = P'.to_affine ∧ Api.g1ToSlice P = Api.g1ToSlice P' ∧
    Api.g1ToUncompressed P = Api.g1ToUncompressed P' ∧ Api.g1ToCompressed P = Api.g1ToCompressed P' :=
  Sm9.observe_affine1 h h'
theorem observe_affine2 {Q Q' : G2} {d : Fr} (h : Rel2 Q d) (h' : Rel2 Q' d) :
    Q.to_affine = Q'.to_affine ∧ Api.g2ToSlice Q = Api.g2ToSlice Q' ∧
    Api.g2ToUncompressed Q = Api.g2ToUncompressed Q' ∧ Api.g2ToCompressed Q = Api.g2ToCompressed Q' :=
  Sm9.observe_affine2 h h'
theorem observe_pairings {p p' : G1} {qv qv' : G2} {a b : Fr} (hp : Rel1 p a) (hp' : Rel1 p' a)
    (hq : Rel2 qv b) (hq' : Rel2 qv' b) :
    Api.pairing p qv = Api.pairing p' qv' ∧ Api.fast_pairing p qv = Api.fast_pairing p' qv' ∧
    (do let pr ← Api.prepare qv; Api.preparedPairing pr p) = (do let pr ← Api.prepare qv'; Api.preparedPairing pr p') :=
  Sm9.observe_pairings hp hp' hq hq'
/-- **the pairing of two registers is the one predicted from their discrete logarithms**: with `g₀ = e(P1, P2)`, a G1
    register with log `a` and a G2 register with log `b` pair to `g₀^(a·b)` — in all three entry points (bilinearity, C01) -/
theorem observe_pairing_from_logs {p : G1} {qv : G2} {a b : Fr} (hp : Rel1 p a) (hq : Rel2 qv b) :
    ∃ g0, Api.pairing (G.one : G1) (G.one : G2) = .ok g0 ∧
      Api.pairing p qv = .ok (g0 ^ (b.val * a.val)) ∧ Api.fast_pairing p qv = .ok (g0 ^ (b.val * a.val)) ∧
      (do let pr ← Api.prepare qv; Api.preparedPairing pr p) = .ok (g0 ^ (b.val * a.val)) := by
  have ha := Miller.api_pairing_of_logs p qv hp.1 hq.1 _ _ hp.2 hq.2
  rw [mul_comm] at ha
  refine ⟨_, Miller.api_pairing_eq_pair _ _ G1.one_valid G2.one_valid Miller.inG2_gen, ha, ?_, ?_⟩
  · rw [← Miller.api_pairing_eq_fast_pairing p qv hp.1 hq.1 b.val hq.2]; exact ha
  · rw [Miller.api_prepared_eq_fast, ← Miller.api_pairing_eq_fast_pairing p qv hp.1 hq.1 b.val hq.2]; exact ha
theorem fresh_related (e : Bool × Fr) : RegRel (fresh e) e := regRel_fresh e
theorem last_operands {regs : List Reg} {ds : List (Bool × Fr)} (h : List.Forall₂ RegRel regs ds) :
    OptRel1 (lastOf regs).1 (alastOf ds).1 ∧ OptRel2 (lastOf regs).2 (alastOf ds).2 := lastOf_rel h

/-- both groups, a failing-free run with all three formats, the compressed round trip
    of P2 (side condition `ReYNonzero 1` proved) and of the G2 identity -/
example : ∃ regs, mrun [.one1, .one2, .zero2, .encdec 1 .compressed, .encdec 2 .compressed,
      .encdec 0 .compressed, .add 1 3, .encdec 6 .slice, .encdec 6 .uncompressed, .sub 0 5] = some regs ∧
    List.Forall₂ RegRel regs [(true, 1), (false, 1), (false, 0), (false, 1), (false, 0), (true, 1),
      (false, 2), (false, 2), (false, 2), (true, 0)] := by
  refine Sm9.mrun_refines _ ?_ _ (by decide +kernel)
  exact .cons trivial rfl <| .cons trivial rfl <| .cons trivial rfl <|
    .cons (stepSafe_compressed (e := (false, 1)) rfl fun _ => reYNonzero_one) rfl <|
    .cons (stepSafe_compressed (e := (false, 0)) rfl fun _ => reYNonzero_zero) rfl <|
    .cons (stepSafe_compressed (e := (true, 1)) rfl nofun) rfl <|
    .cons trivial rfl <| .cons trivial rfl <| .cons trivial rfl <| .cons trivial rfl trivial

/-- the machines fail together: operands of different groups -/
example : mrun [.one1, .one2, .add 0 1] = none := (Sm9.mrun_fails_iff _).2 (by decide +kernel)

end Sm9.C16
