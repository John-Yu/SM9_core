import Sm9.Proofs.MontBasic
import Sm9.Proofs.MontMul
import Sm9.Proofs.MontInvert
import Sm9.Proofs.Conversions
import Sm9.Proofs.MontSop
import Sm9.Proofs.Consts
import Sm9.Proofs.FqField
import Sm9.Model.Api
import Sm9.Proofs.LibScalar
import Sm9.Proofs.FieldProgram
import Sm9.Proofs.FieldProgram2
import Sm9.Proofs.FieldProgram2Sqrt
/-!
# C07 — Field elements always stay canonical; equality is value equality
Limb level: `Canon m x := x < m`.  Every arithmetic step of the limb model maps canonical
inputs to canonical outputs: add, sub, negate, double, Montgomery multiply, square,
entering / leaving Montgomery form, and `set_bit` (after the D1 repair it re-enters
Montgomery form through a reducing multiplication).  On canonical limbs the derived
`PartialEq` (equality of raw limbs) is equality of values, because x ↦ x·R mod m is
injective on [0, m).  `inverse` terminates (within the model's fuel) with a canonical result on
every canonical non-zero input; every constructor (`new`, strict / reducing `from_slice`,
`interpret`, `from_hash`, `random` for arbitrary RNG output, `set_bit` for every index) yields a
canonical value, and so does the interleaved `sum_of_products` behind every Fq2/Fq4 product.
Histories (any order of public calls) are additionally exercised by register-machine programs
on the real crate.

## Any sequence of public operations (one induction over an operation language)

`Sm9/Model/Prog.lean` defines the instruction set `FInstr` of the field programs of the line protocol
(`const slice str hash random add sub mul pow neg dup inv sqrt setbit`: the public `Fr` / `Fq` API of
lib.rs) and ONE register machine `fstep O` / `frun O`, instantiated
* at the limb level, `FrProg.frunL` / `FqProg.frunL`: a register is the stored Montgomery
  representative, an instruction runs the limb-model function the `lib.rs` wrapper calls
  (`lib_from_slice`, `Fp.from_str`, `FrL.from_hash`, `Fp.random`, `Fp.add/sub/mul/neg/pow`,
  `Fp.inverse`, `FqL.sqrt`, `Fp.set_bit`; `Sm9/Gen/LimbEquiv.lean` proves these equal to the
  definitions translated from the Rust source), and
* at the value level, `FrProg.frunV` / `FqProg.frunV`: what the differential driver runs
  (`Sm9/Driver/Prog.lean` only parses the text of a step into an `FInstr`).
A `None` result of the API (bad length, non-digit, `inverse` of 0, `sqrt` of a non-square) leaves zero.

Proved for **every** program `prog : List FInstr` (any length, any order), for Fr and for Fq, with
`CanonRel x a := x < modulus ∧ ofMont x = a` (`ofMont x` = the field element `x · R⁻¹`):

* the limb-level machine fails exactly when the value-level machine fails, and that happens exactly when the
  program is not `WellFormed` — a decidable, purely syntactic condition: a register index that does
  not refer to an earlier step, an instruction the field does not have (`sqrt` for Fr; `hash random
  setbit` for Fq), a `random` script that is not 8 words long, a `const` literal beyond 64 bytes.
  In particular no limb-model function panics and **the fuel of `inverse` (binary extended Euclid)
  always suffices** along a run.
* if the value-level machine runs, the limb-level machine runs and `List.Forall₂ CanonRel` relates the two
  register files; every limb register after any program is `< modulus`.
* observations are functions of the denoted field element: equality of raw limbs (the derived `==`) ⇔
  equality of the field elements, `is_zero`, `to_slice`, `is_even`; the stored limbs themselves are
  determined by the field element (they are `Fp.new_mul_factor` of its value), hence any further instruction
  applied to two register files denoting the same values gives identical results.

**Modelling conventions**: `random` takes the RNG output as a script of
exactly 8 words (`next_u64` draws, limb 0 first; any word values); the exponent of `pow` is a
register (as in `Fr::pow(self, exp: Fr)`), not a literal; `const v` stands for `from_slice` of the
32-byte (64-byte if `v ≥ 2^256`) big-endian encoding of `v`; `str` takes the already UTF-8-decoded
characters.  **Fq2** has its own instance of the same machine (`Sm9/Proofs/FieldProgram2.lean`, theorems `fq2_program_*`): registers are
pairs of Montgomery limbs, `slice` is the strict 64-byte decoder and `mul` the interleaved `sum_of_products` as `Fq2::mul_inplace` calls
it.  With `sqrt` (`Sm9/Proofs/FieldProgram2Sqrt.lean`, machine `opsLs`/`opsVs`, theorems `…_s`): the limb-level `Fq2::sqrt` (`sqrtL`, fq2.rs line by
line on Montgomery residues) never fails, returns `None` exactly when the value-level root does not exist and otherwise a canonical pair
denoting it (`fq2_sqrt_refines`).  Field elements inside Fq4/Fq12 and point coordinates are not registers of these machines (the step
theorems above cover them; C16 for points).
-/
namespace Sm9.C07

def Canon (m x : Nat) : Prop := x < m

theorem add_canon (a b m : Nat) (hm : m < W256) (hm2 : W256 < 2 * m) (ha : Canon m a) (hb : Canon m b) :
    Canon m (U256.add a b m) := (U256.add_refines a b m hm hm2 ha hb).1
theorem sub_canon (a b m : Nat) (hm : m < W256) (ha : Canon m a) (hb : Canon m b) :
    Canon m (U256.sub a b m) := (U256.sub_refines a b m hm ha hb).1
theorem neg_canon (a m : Nat) (hm : m < W256) (ha : Canon m a) : Canon m (U256.neg a m) :=
  (U256.neg_refines a m hm ha).1
theorem double_canon (a m : Nat) (hm : m < W256) (hm2 : W256 < 2 * m) (ha : Canon m a) :
    Canon m (U256.mul2 a m) := (U256.mul2_refines a m hm ha).1
theorem mul_canon {P : MontParams} (hP : P.Ok) (a b : Nat) (ha : Canon P.modulus a) (hb : Canon P.modulus b) :
    Canon P.modulus (Fp.mul P a b) := (Fp.mul_refines hP a b ha hb).1
theorem squared_canon {P : MontParams} (hP : P.Ok) (a : Nat) (ha : Canon P.modulus a) :
    Canon P.modulus (Fp.squared P a) := (Fp.squared_refines hP a ha).1
theorem ctor_canon : Canon paramsQ.modulus 0 ∧ Canon paramsQ.modulus paramsQ.one ∧
    Canon paramsR.modulus 0 ∧ Canon paramsR.modulus paramsR.one :=
  ⟨paramsQ_ok.pos, Fp.one_lt paramsQ_ok, paramsR_ok.pos, Fp.one_lt paramsR_ok⟩
theorem new_spec {P : MontParams} (hP : P.Ok) (x : Nat) :
    Fp.new P x = if x < P.modulus then some ((x * W256) % P.modulus) else none := Fp.new_eq hP x
theorem new_canon {P : MontParams} (hP : P.Ok) (x y : Nat) (h : Fp.new P x = some y) : Canon P.modulus y := by
  rw [Fp.new_eq hP] at h
  split at h
  · exact Option.some.inj h ▸ Nat.mod_lt _ hP.pos
  · cases h
theorem inverse_canon_terminates {P : MontParams} (hP : P.Ok) (hp : Nat.Prime P.modulus) (x : Nat)
    (hx : Canon P.modulus x) (h0 : x ≠ 0) :
    ∃ y, Fp.inverse P x = some (some y) ∧ Canon P.modulus y := by
  obtain ⟨y, h1, h2, _⟩ := (Fp.inverse_refines hP hp x hx).2 h0
  exact ⟨y, h1, h2⟩
theorem div2_canon (b m : Nat) (hm : m < W256) (hm2 : W256 < 2 * m) (hodd : m % 2 = 1) (hb : Canon m b) :
    Canon m (U256.div2 b m) := (U256.div2_refines b m hm hm2 hodd hb).1
theorem new_mul_factor_canon {P : MontParams} (hP : P.Ok) (x : Nat) (hx : x < W256) :
    Canon P.modulus (Fp.new_mul_factor P x) := (Fp.new_mul_factor_reduces hP x hx).1
theorem interpret_canon {P : MontParams} (hP : P.Ok) (bs : List UInt8) (h : bs.length = 64) :
    ∃ y, Fp.interpret P bs = .ok y ∧ Canon P.modulus y := by
  obtain ⟨y, h1, h2, _⟩ := Fp.interpret_spec hP bs h
  exact ⟨y, h1, h2⟩
theorem set_bit_canon {P : MontParams} (hP : P.Ok) (x i : Nat) (v : Bool) (hx : Canon P.modulus x) :
    Canon P.modulus (Fp.set_bit P x i v) := (Fp.set_bit_spec hP x i v hx).2
theorem random_canon {P : MontParams} (hP : P.Ok) (draw : List Nat) : Canon P.modulus (Fp.random P draw) :=
  (Fp.random_spec hP draw).2
theorem from_hash_canon (ha : List UInt8) (h : ha.length ≤ 64) :
    ∃ y, FrL.from_hash ha = .ok (some y) ∧ Canon Consts.FR y := by
  obtain ⟨y, h1, h2, _⟩ := FrL.from_hash_spec ha h
  exact ⟨y, h1, h2⟩
theorem sum_of_products_canon (as bs : List Nat) (hlen : as.length = bs.length) (h4 : as.length ≤ 4)
    (ha : ∀ a ∈ as, Canon Consts.FQ a) (hb : ∀ b ∈ bs, Canon Consts.FQ b) :
    ∃ res, FqL.sum_of_products as bs = some res ∧ Canon Consts.FQ res := by
  obtain ⟨res, h1, h2, _⟩ := FqL.sum_of_products_refines as bs hlen h4 ha hb
  exact ⟨res, h1, h2⟩
/-- on canonical limbs, equal values (x·R mod m) force equal limbs: `==` on raw limbs is value equality -/
theorem eq_iff_value {P : MontParams} (hP : P.Ok) {a b : Nat} (ha : Canon P.modulus a) (hb : Canon P.modulus b)
    (h : (a * W256) % P.modulus = (b * W256) % P.modulus) : a = b := Fp.eq_of_mul_W256 hP ha hb h
/-- the canonical encoding is below the modulus -/
theorem to_slice_lt {P : MontParams} (hP : P.Ok) (x : Nat) (hx : Canon P.modulus x) :
    Fp.into_u256 P x < P.modulus := (Fp.into_u256_refines hP x hx).1
theorem is_zero_iff (x : Fq) : x.is_zero = true ↔ x = 0 := Fq.is_zero_iff x
theorem fr_is_zero_iff (x : Fr) : x.is_zero = true ↔ x = 0 := Fr.is_zero_iff x
/-- the D1 witness, on the repaired code: setting bits 255 and 254 of one stays canonical -/
example : Fp.set_bit paramsR (Fp.set_bit paramsR paramsR.one 255 true) 254 true < paramsR.modulus := by
  decide +kernel

theorem fr_canonRel_iff (x : Nat) (a : Fr) : FrProg.CanonRel x a ↔ (Canon paramsR.modulus x ∧ Fr.ofMont x = a) := Iff.rfl
theorem fq_canonRel_iff (x : Nat) (a : Fq) : FqProg.CanonRel x a ↔ (Canon paramsQ.modulus x ∧ Fq.ofMont x = a) := Iff.rfl

/-- main theorem, Fr: if the value-level machine runs, so does the limb-level machine, and limb
    register k is the canonical representative of value register k -/
theorem fr_program_refines (prog : List FInstr) (ds : List Fr) (h : FrProg.frunV prog = some ds) :
    ∃ regs, FrProg.frunL prog = some regs ∧ List.Forall₂ FrProg.CanonRel regs ds :=
  (frun_sim FrProg.opsSim prog).of_some h
theorem fq_program_refines (prog : List FInstr) (ds : List Fq) (h : FqProg.frunV prog = some ds) :
    ∃ regs, FqProg.frunL prog = some regs ∧ List.Forall₂ FqProg.CanonRel regs ds :=
  (frun_sim FqProg.opsSim prog).of_some h

/-- the machines fail on exactly the same programs (no panic, no fuel exhaustion at the limb level) -/
theorem fr_program_fails_iff (prog : List FInstr) : FrProg.frunL prog = none ↔ FrProg.frunV prog = none :=
  (frun_sim FrProg.opsSim prog).none_iff
theorem fq_program_fails_iff (prog : List FInstr) : FqProg.frunL prog = none ↔ FqProg.frunV prog = none :=
  (frun_sim FqProg.opsSim prog).none_iff

/-- … namely on the programs that are not well formed (decidable, syntactic) -/
theorem fr_program_fails_iff_wf (prog : List FInstr) : FrProg.frunL prog = none ↔ ¬ FrProg.WellFormed prog :=
  (fr_program_fails_iff prog).trans (FrProg.frunV_fails_iff_wf prog)
theorem fq_program_fails_iff_wf (prog : List FInstr) : FqProg.frunL prog = none ↔ ¬ FqProg.WellFormed prog :=
  (fq_program_fails_iff prog).trans (FqProg.frunV_fails_iff_wf prog)

/-- every register after any sequence of public operations is canonical -/
theorem fr_program_canonical (prog : List FInstr) (regs : List Nat) (h : FrProg.frunL prog = some regs) :
    ∀ x ∈ regs, Canon paramsR.modulus x := FrProg.opsSim.left_inv (fun _ _ hr => hr.1) h
theorem fq_program_canonical (prog : List FInstr) (regs : List Nat) (h : FqProg.frunL prog = some regs) :
    ∀ x ∈ regs, Canon paramsQ.modulus x := FqProg.opsSim.left_inv (fun _ _ hr => hr.1) h

theorem fr_program_total (prog : List FInstr) (hwf : FrProg.WellFormed prog) :
    ∃ regs ds, FrProg.frunL prog = some regs ∧ FrProg.frunV prog = some ds ∧
      List.Forall₂ FrProg.CanonRel regs ds ∧ regs.length = prog.length ∧ ∀ x ∈ regs, x < paramsR.modulus :=
  FrProg.opsSim.total (fun _ _ h => h.1) fun h => (FrProg.frunV_fails_iff_wf prog).mp h hwf
theorem fq_program_total (prog : List FInstr) (hwf : FqProg.WellFormed prog) :
    ∃ regs ds, FqProg.frunL prog = some regs ∧ FqProg.frunV prog = some ds ∧
      List.Forall₂ FqProg.CanonRel regs ds ∧ regs.length = prog.length ∧ ∀ x ∈ regs, x < paramsQ.modulus :=
  FqProg.opsSim.total (fun _ _ h => h.1) fun h => (FqProg.frunV_fails_iff_wf prog).mp h hwf

/-- the fuel of `inverse` suffices on every canonical input -/
theorem fr_inverse_total (x : Nat) (hx : Canon paramsR.modulus x) :
    ∃ y, FProg.invL paramsR x = some y ∧ y < paramsR.modulus ∧ Fr.ofMont y = ((Fr.ofMont x).inverse).getD 0 :=
  let ⟨y, hy, hr⟩ := (FrProg.opsSim.inv (a := x) (a' := Fr.ofMont x) ⟨hx, rfl⟩).of_some rfl
  ⟨y, hy, hr.1, hr.2⟩
theorem fq_inverse_total (x : Nat) (hx : Canon paramsQ.modulus x) :
    ∃ y, FProg.invL paramsQ x = some y ∧ y < paramsQ.modulus ∧ Fq.ofMont y = ((Fq.ofMont x).inverse).getD 0 :=
  let ⟨y, hy, hr⟩ := (FqProg.opsSim.inv (a := x) (a' := Fq.ofMont x) ⟨hx, rfl⟩).of_some rfl
  ⟨y, hy, hr.1, hr.2⟩

theorem fr_step_refines {regs : List Nat} {ds : List Fr} (h : List.Forall₂ FrProg.CanonRel regs ds) (ins : FInstr) :
    OptRel (List.Forall₂ FrProg.CanonRel) (FrProg.fstepL regs ins) (FrProg.fstepV ds ins) :=
  fstep_sim FrProg.opsSim h ins
theorem fq_step_refines {regs : List Nat} {ds : List Fq} (h : List.Forall₂ FqProg.CanonRel regs ds) (ins : FInstr) :
    OptRel (List.Forall₂ FqProg.CanonRel) (FqProg.fstepL regs ins) (FqProg.fstepV ds ins) :=
  fstep_sim FqProg.opsSim h ins

/-- raw-limb equality (the derived `==`) ⇔ equality of the denoted field elements -/
theorem fr_observe_eq {x y : Nat} {a b : Fr} (hx : FrProg.CanonRel x a) (hy : FrProg.CanonRel y b) :
    x = y ↔ a = b := Relator.rel_eq FrProg.biUnique hx hy
theorem fq_observe_eq {x y : Nat} {a b : Fq} (hx : FqProg.CanonRel x a) (hy : FqProg.CanonRel y b) :
    x = y ↔ a = b := Relator.rel_eq FqProg.biUnique hx hy
theorem fr_observe_is_zero {x : Nat} {a : Fr} (hx : FrProg.CanonRel x a) : Fp.is_zero x = a.is_zero :=
  FrProg.observe_is_zero hx
theorem fq_observe_is_zero {x : Nat} {a : Fq} (hx : FqProg.CanonRel x a) : Fp.is_zero x = a.is_zero :=
  FqProg.observe_is_zero hx
theorem fr_observe_to_slice {x : Nat} {a : Fr} (hx : FrProg.CanonRel x a) :
    Fp.to_slice paramsR x = Api.frToSlice a := FrProg.observe_to_slice hx
theorem fq_observe_to_slice {x : Nat} {a : Fq} (hx : FqProg.CanonRel x a) :
    Fp.to_slice paramsQ x = Api.fqToSlice a := FqProg.observe_to_slice hx
theorem fq_observe_is_even {x : Nat} {a : Fq} (hx : FqProg.CanonRel x a) :
    Big.is_even (Fp.into_u256 paramsQ x) = a.is_even := FqProg.observe_is_even hx
theorem fr_canon_unique {x y : Nat} {a : Fr} (hx : FrProg.CanonRel x a) (hy : FrProg.CanonRel y a) : x = y :=
  FrProg.biUnique.1 hx hy
theorem fq_canon_unique {x y : Nat} {a : Fq} (hx : FqProg.CanonRel x a) (hy : FqProg.CanonRel y a) : x = y :=
  FqProg.biUnique.1 hx hy
theorem fr_canon_fresh (a : Fr) : FrProg.CanonRel (Fp.new_mul_factor paramsR a.val) a := Fp.Rep.fresh paramsR_ok a
theorem fq_canon_fresh (a : Fq) : FqProg.CanonRel (Fp.new_mul_factor paramsQ a.val) a := FqProg.canonRel_fresh a
theorem fr_step_congr {regs regs' : List Nat} {ds : List Fr} (h : List.Forall₂ FrProg.CanonRel regs ds)
    (h' : List.Forall₂ FrProg.CanonRel regs' ds) (ins : FInstr) :
    OptRel (List.Forall₂ FrProg.CanonRel) (FrProg.fstepL regs ins) (FrProg.fstepV ds ins) ∧
    OptRel (List.Forall₂ FrProg.CanonRel) (FrProg.fstepL regs' ins) (FrProg.fstepV ds ins) ∧
    FrProg.fstepL regs ins = FrProg.fstepL regs' ins := FrProg.step_congr h h' ins
theorem fq_step_congr {regs regs' : List Nat} {ds : List Fq} (h : List.Forall₂ FqProg.CanonRel regs ds)
    (h' : List.Forall₂ FqProg.CanonRel regs' ds) (ins : FInstr) :
    OptRel (List.Forall₂ FqProg.CanonRel) (FqProg.fstepL regs ins) (FqProg.fstepV ds ins) ∧
    OptRel (List.Forall₂ FqProg.CanonRel) (FqProg.fstepL regs' ins) (FqProg.fstepV ds ins) ∧
    FqProg.fstepL regs ins = FqProg.fstepL regs' ins := FqProg.step_congr h h' ins
theorem fr_program_observe (prog : List FInstr) (regs : List Nat) (h : FrProg.frunL prog = some regs) :
    ∃ ds, FrProg.frunV prog = some ds ∧ ds.length = regs.length ∧
      ∀ (i j x y : Nat), regs[i]? = some x → regs[j]? = some y → ∃ a b, ds[i]? = some a ∧ ds[j]? = some b ∧
        x < paramsR.modulus ∧ Fr.ofMont x = a ∧
        FProg.eqObs x y = decide (a = b) ∧ FProg.isZeroObs x = a.is_zero ∧
        FProg.toSliceObs paramsR x = Api.frToSlice a :=
  FrProg.opsSim.observe (fun hxa hyb => ⟨hxa.1, hxa.2, beq_eq_decide_of_biUnique FrProg.biUnique hxa hyb,
    FrProg.observe_is_zero hxa, FrProg.observe_to_slice hxa⟩) h
theorem fq_program_observe (prog : List FInstr) (regs : List Nat) (h : FqProg.frunL prog = some regs) :
    ∃ ds, FqProg.frunV prog = some ds ∧ ds.length = regs.length ∧
      ∀ (i j x y : Nat), regs[i]? = some x → regs[j]? = some y → ∃ a b, ds[i]? = some a ∧ ds[j]? = some b ∧
        x < paramsQ.modulus ∧ Fq.ofMont x = a ∧
        FProg.eqObs x y = decide (a = b) ∧ FProg.isZeroObs x = a.is_zero ∧
        FProg.toSliceObs paramsQ x = Api.fqToSlice a ∧ FProg.isEvenObs x = a.is_even :=
  FqProg.opsSim.observe (fun hxa hyb => ⟨hxa.1, hxa.2, beq_eq_decide_of_biUnique FqProg.biUnique hxa hyb,
    FqProg.observe_is_zero hxa, FqProg.observe_to_slice hxa, FqProg.observe_is_even hxa⟩) h

/-- every program over Fq2 values: the limb machine runs whenever the value machine does; every register is canonical in both
    coordinates and denotes the corresponding register of the value machine -/
theorem fq2_program_refines (prog : List FInstr) (ds : List Fq2) (h : Fq2Prog.frunV prog = some ds) :
    ∃ regs, Fq2Prog.frunL prog = some regs ∧ List.Forall₂ Fq2Prog.CanonRel2 regs ds := Fq2Prog.frun_refines prog ds h
theorem fq2_program_fails_iff (prog : List FInstr) : Fq2Prog.frunL prog = none ↔ Fq2Prog.frunV prog = none :=
  Fq2Prog.frun_fails_iff prog
theorem fq2_program_fails_iff_wf (prog : List FInstr) : Fq2Prog.frunL prog = none ↔ ¬ Fq2Prog.WellFormed prog :=
  Fq2Prog.frunL_fails_iff_wf prog
theorem fq2_program_canonical (prog : List FInstr) (regs : List (Nat × Nat)) (h : Fq2Prog.frunL prog = some regs) :
    ∀ x ∈ regs, x.1 < paramsQ.modulus ∧ x.2 < paramsQ.modulus := Fq2Prog.frun_canonical prog regs h
/-- raw-limb equality of two registers is equality in Fq2; `is_zero` holds exactly for the value 0; the 64-byte encoding and
    the parity are functions of the denoted element -/
theorem fq2_observe_eq {x y : Nat × Nat} {a b : Fq2} (hx : Fq2Prog.CanonRel2 x a) (hy : Fq2Prog.CanonRel2 y b) :
    x = y ↔ a = b := Fq2Prog.observe_eq hx hy
theorem fq2_observe_is_zero_iff {x : Nat × Nat} {a : Fq2} (hx : Fq2Prog.CanonRel2 x a) :
    Fq2Prog.isZeroObs2 x = true ↔ a = Fq2.zero := Fq2Prog.observe_is_zero_iff hx
theorem fq2_observe_to_slice {x : Nat × Nat} {a : Fq2} (hx : Fq2Prog.CanonRel2 x a) :
    Fq2Prog.toSliceObs2 x = Api.fq2ToSlice a := Fq2Prog.observe_to_slice hx
theorem fq2_canon_unique {x y : Nat × Nat} {a : Fq2} (hx : Fq2Prog.CanonRel2 x a) (hy : Fq2Prog.CanonRel2 y a) : x = y :=
  Fq2Prog.canonRel2_unique hx hy
/-- the limb-level `Fq2::sqrt`: total, `None` exactly when the value-level square root is `None`, otherwise canonical and
    denoting it -/
theorem fq2_sqrt_refines {x : Nat × Nat} {a : Fq2} (hx : Fq2Prog.CanonRel2 x a) :
    ∃ res, Fq2Prog.sqrtL x = some res ∧ OptRel Fq2Prog.CanonRel2 res a.sqrt := Fq2Prog.sqrtL_refines hx
theorem fq2_program_refines_s (prog : List FInstr) (ds : List Fq2) (h : Fq2Prog.frunVs prog = some ds) :
    ∃ regs, Fq2Prog.frunLs prog = some regs ∧ List.Forall₂ Fq2Prog.CanonRel2 regs ds := Fq2Prog.frun_refines_s prog ds h
theorem fq2_program_fails_iff_s (prog : List FInstr) : Fq2Prog.frunLs prog = none ↔ Fq2Prog.frunVs prog = none :=
  Fq2Prog.frun_fails_iff_s prog
theorem fq2_program_canonical_s (prog : List FInstr) (regs : List (Nat × Nat)) (h : Fq2Prog.frunLs prog = some regs) :
    ∀ x ∈ regs, x.1 < paramsQ.modulus ∧ x.2 < paramsQ.modulus := Fq2Prog.frun_canonical_s prog regs h
example : Fq2Prog.WellFormed Fq2Prog.demo := by decide

/-- the D1 history (set bits 255 and 254 of one) followed by every kind of Fr operation,
    including `inverse` of zero; the limb-level machine runs and all registers are canonical -/
def exampleFr : List FInstr :=
  [.str ['1'], .setbit 0 255 true, .setbit 1 254 true, .hash [1, 2], .random [1, 2, 3, 4, 5, 6, 7, 8],
   .mul 2 3, .pow 5 4, .sub 0 0, .inv 7, .inv 6, .neg 9, .slice [255], .add 10 11, .const 7, .dup 13]
example : ∃ regs, FrProg.frunL exampleFr = some regs ∧ regs.length = 15 ∧ ∀ x ∈ regs, Canon paramsR.modulus x := by
  obtain ⟨regs, _, h1, _, _, h4, h5⟩ := fr_program_total exampleFr (by decide)
  exact ⟨regs, h1, h4, h5⟩
def exampleFq : List FInstr :=
  [.const 4, .sqrt 0, .neg 1, .sqrt 2, .inv 3, .str ['9', 'x'], .pow 1 0, .sub 6 6, .inv 7]
example : ∃ regs, FqProg.frunL exampleFq = some regs ∧ ∀ x ∈ regs, Canon paramsQ.modulus x := by
  obtain ⟨regs, _, h1, _, _, _, h5⟩ := fq_program_total exampleFq (by decide)
  exact ⟨regs, h1, h5⟩
/-- the machines fail together: `sqrt` does not exist for Fr; a forward reference -/
example : FrProg.frunL [.const 4, .sqrt 0] = none := (fr_program_fails_iff_wf [.const 4, .sqrt 0]).2 (by decide)
example : FqProg.frunL [.const 4, .add 0 1] = none := (fq_program_fails_iff_wf [.const 4, .add 0 1]).2 (by decide)

end Sm9.C07
