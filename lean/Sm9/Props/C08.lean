import Sm9.Proofs.Decoders
import Sm9.Proofs.DecodersG2
/-!
# C08 — Point decoders are total, strict and build-profile independent

On the model of the six decoders (which have no panic outcome — they return
`Except CurveError _` — and no profile-dependent construct after the D3/D4 repairs):
`Ok(P)` **if and only if** the input has exactly the length and prefix of the format, every
coordinate is below q and the decoded affine point lies on the curve (G2: and r·(x,y) = O);
in that case re-encoding P in the same format gives back the input; every other input is
`Err` (which kind is characterised for the raw G1 format).  Compressed G2: acceptance is
characterised (`g2_from_compressed_accepts_iff`; `g2_from_compressed_sound` is the direction from `Ok`),
re-encoding under Re y ≠ 0 (`…_partial`).
-/
namespace Sm9.C08

theorem g1_from_slice_iff (bs : List UInt8) (P : G1) :
    Api.g1FromSlice bs = .ok P ↔
      bs.length = 64 ∧ ∃ x y : Fq, beVal (bs.take 32) = x.val ∧ beVal (bs.drop 32) = y.val ∧
        (beVal (bs.take 32) < q) ∧ (beVal (bs.drop 32) < q) ∧
        y * y = x * x * x + b1 ∧ P = { x := x, y := y, z := 1 } := Sm9.g1_from_slice_iff bs P
theorem g1_from_slice_reencode (bs : List UInt8) (P : G1) (h : Api.g1FromSlice bs = .ok P) :
    Api.g1ToSlice P = .ok bs := by
  obtain ⟨x, y, _, rfl, rfl⟩ := (g1_from_slice_iff_encoding bs P).1 h
  exact Api.g1ToSlice_of_z_one x y
theorem g1_from_slice_invalid_iff (bs : List UInt8) :
    Api.g1FromSlice bs = .error .InvalidEncoding ↔
      bs.length ≠ 64 ∨ q ≤ beVal (bs.take 32) ∨ q ≤ beVal (bs.drop 32) := Sm9.g1_from_slice_invalid_iff bs
theorem g1_from_slice_not_member_iff (bs : List UInt8) :
    Api.g1FromSlice bs = .error .NotMember ↔
      bs.length = 64 ∧ ∃ x y : Fq, beVal (bs.take 32) = x.val ∧ beVal (bs.drop 32) = y.val ∧
        y * y ≠ x * x * x + b1 := Sm9.g1_from_slice_not_member_iff bs
theorem g1_from_uncompressed_iff (bs : List UInt8) (P : G1) :
    Api.g1FromUncompressed bs = .ok P ↔ ∃ tl, bs = (4 : UInt8) :: tl ∧ Api.g1FromSlice tl = .ok P :=
  Sm9.g1_from_uncompressed_iff bs P
theorem g1_from_uncompressed_reencode (bs : List UInt8) (P : G1) (h : Api.g1FromUncompressed bs = .ok P) :
    Api.g1ToUncompressed P = .ok bs := by
  obtain ⟨tl, rfl, h'⟩ := (g1_from_uncompressed_iff bs P).1 h
  exact Api.g1ToUncompressed_ok P tl (g1_from_slice_reencode tl P h')
theorem g1_from_compressed_iff (bs : List UInt8) (P : G1) :
    Api.g1FromCompressed bs = .ok P ↔
      ∃ x y : Fq, y * y = x * x * x + b1 ∧ bs = compByte y.is_even :: Api.fqToSlice x ∧
        P = { x := x, y := y, z := 1 } := Sm9.g1_from_compressed_iff bs P
theorem g1_from_compressed_reencode (bs : List UInt8) (P : G1) (h : Api.g1FromCompressed bs = .ok P) :
    Api.g1ToCompressed P = .ok bs := by
  obtain ⟨x, y, _, rfl, rfl⟩ := (g1_from_compressed_iff bs P).1 h
  exact Api.g1ToCompressed_of_z_one x y
theorem g2_from_slice_iff (bs : List UInt8) (P : G2) :
    Api.g2FromSlice bs = .ok P ↔
      bs.length = 128 ∧ ∃ x y : Fq2, Api.fq2FromSlice (bs.take 64) = some x ∧
        Api.fq2FromSlice (bs.drop 64) = some y ∧
        y * y = x * x * x + b2 ∧ r • G2.toAff { x := x, y := y, z := 1 } = 0 ∧
        P = { x := x, y := y, z := 1 } := Sm9.g2_from_slice_iff bs P
theorem g2_from_slice_reencode (bs : List UInt8) (P : G2) (h : Api.g2FromSlice bs = .ok P) :
    Api.g2ToSlice P = .ok bs := by
  obtain ⟨x, y, _, _, rfl, rfl⟩ := (g2_from_slice_iff_encoding bs P).1 h
  exact Api.g2ToSlice_of_z_one x y
theorem g2_from_uncompressed_iff (bs : List UInt8) (P : G2) :
    Api.g2FromUncompressed bs = .ok P ↔ ∃ tl, bs = (4 : UInt8) :: tl ∧ Api.g2FromSlice tl = .ok P :=
  Sm9.g2_from_uncompressed_iff bs P
theorem g2_from_uncompressed_reencode (bs : List UInt8) (P : G2) (h : Api.g2FromUncompressed bs = .ok P) :
    Api.g2ToUncompressed P = .ok bs := by
  obtain ⟨tl, rfl, h'⟩ := (g2_from_uncompressed_iff bs P).1 h
  exact Api.g2ToUncompressed_ok P tl (g2_from_slice_reencode tl P h')
theorem g2_from_compressed_sound (bs : List UInt8) (P : G2) (h : Api.g2FromCompressed bs = .ok P) :
    ∃ (b : UInt8) (x y : Fq2), (b.toNat = 2 ∨ b.toNat = 3) ∧ bs = b :: Api.fq2ToSlice x ∧
      y * y = x * x * x + b2 ∧ r • G2.toAff { x := x, y := y, z := 1 } = 0 ∧
      P = { x := x, y := y, z := 1 } ∧
      (y.c0 ≠ 0 → b = compByte (Api.fq2IsEven y)) := Sm9.g2_from_compressed_sound bs P h
/-- re-encoding of an accepted compressed G2 input, **partial**: under Re y ≠ 0.  Missing: a proof that
    no point of the order-r subgroup of the twist has Re y = 0.  (If such a point (x, y) exists, both
    `02 ‖ x` and `03 ‖ x` are accepted — giving (x, s) and (x, −s) for the root s returned by
    `Fq2::sqrt` — and both points re-encode to `02 ‖ x`.) -/
theorem g2_from_compressed_reencode_partial (bs : List UInt8) (P : G2)
    (h : Api.g2FromCompressed bs = .ok P) (hre : P.y.c0 ≠ 0) : Api.g2ToCompressed P = .ok bs := by
  obtain ⟨b, x, y, _, rfl, _, _, rfl, hb⟩ := g2_from_compressed_sound bs P h
  rw [Api.g2ToCompressed_of_z_one, ← hb hre]
/-- **which strings `G2::from_compressed` accepts** — no side condition: exactly `b ‖ enc x` with `b ∈ {02, 03}` and
    `x` the abscissa of a point of the twist in the order-r subgroup -/
theorem g2_from_compressed_accepts_iff (bs : List UInt8) :
    (∃ P, Api.g2FromCompressed bs = .ok P) ↔
      ∃ (b : UInt8) (x y : Fq2), (b.toNat = 2 ∨ b.toNat = 3) ∧ bs = b :: Api.fq2ToSlice x ∧
        y * y = x * x * x + b2 ∧ r • G2.toAff { x := x, y := y, z := 1 } = 0 := Sm9.g2_from_compressed_accepts_iff bs
/-- completeness: for a subgroup point `(x, y)` of the twist both prefixes decode, to `(x, ±y)` -/
theorem g2_from_compressed_complete (x y : Fq2) (h : y * y = x * x * x + b2)
    (hsub : r • G2.toAff { x := x, y := y, z := 1 } = 0) (b : UInt8) (hb : b.toNat = 2 ∨ b.toNat = 3) :
    ∃ P : G2, Api.g2FromCompressed (b :: Api.fq2ToSlice x) = .ok P ∧ P.x = x ∧ (P.y = y ∨ P.y = -y) ∧ P.z = 1 :=
  Sm9.g2_from_compressed_complete x y h hsub b hb
/-- the exact characterisation of `Ok(P)` for compressed G2, **partial**: for results with Re y ≠ 0 -/
theorem g2_from_compressed_iff_partial (bs : List UInt8) (P : G2) (hre : P.y.c0 ≠ 0) :
    Api.g2FromCompressed bs = .ok P ↔
      ∃ x y : Fq2, y * y = x * x * x + b2 ∧ r • G2.toAff { x := x, y := y, z := 1 } = 0 ∧
        bs = compByte (Api.fq2IsEven y) :: Api.fq2ToSlice x ∧ P = { x := x, y := y, z := 1 } :=
  Sm9.g2_from_compressed_iff_partial bs P hre
/-- **every G2 decoder is total and funnels**: any byte string gives `Ok` of a point in normal form on the twist and in
    the order-r subgroup, or an `Err` (the result type `Except CurveError G2` has no panic outcome) — C09's decoder clause -/
theorem g2_decoders_total_and_funnel (bs : List UInt8) :
    ((∃ P, Api.g2FromSlice bs = .ok P ∧ P.z = 1 ∧ P.y * P.y = P.x * P.x * P.x + b2 ∧ r • G2.toAff P = 0) ∨
      ∃ e, Api.g2FromSlice bs = .error e) ∧
    ((∃ P, Api.g2FromUncompressed bs = .ok P ∧ P.z = 1 ∧ P.y * P.y = P.x * P.x * P.x + b2 ∧ r • G2.toAff P = 0) ∨
      ∃ e, Api.g2FromUncompressed bs = .error e) ∧
    ((∃ P, Api.g2FromCompressed bs = .ok P ∧ P.z = 1 ∧ P.y * P.y = P.x * P.x * P.x + b2 ∧ r • G2.toAff P = 0) ∨
      ∃ e, Api.g2FromCompressed bs = .error e) :=
  ⟨Except.ok_and_or_error _ _ (g2_from_slice_funnel' bs), Except.ok_and_or_error _ _ (g2_from_uncompressed_funnel bs),
    Except.ok_and_or_error _ _ (g2_from_compressed_funnel bs)⟩
/-- strict coordinates: the strict field decoder accepts exactly the 32-byte strings below q -/
theorem coordinate_strict (bs : List UInt8) (x : Fq) :
    Api.fqFromSliceStrict bs = some x ↔ bs.length = 32 ∧ beVal bs = x.val := Api.fqFromSliceStrict_iff bs x
theorem coordinate_rejected (bs : List UInt8) :
    Api.fqFromSliceStrict bs = none ↔ bs.length ≠ 32 ∨ q ≤ beVal bs := Api.fqFromSliceStrict_eq_none_iff bs
/-- `Fq2::from_slice` (after D3): an error, never a panic, on an out-of-range half -/
theorem fq2_from_slice_iff (bs : List UInt8) (x : Fq2) :
    Api.fq2FromSlice bs = some x ↔ bs.length = 64 ∧ beVal (bs.take 32) = x.c1.val ∧ beVal (bs.drop 32) = x.c0.val :=
  Api.fq2FromSlice_iff bs x

example : ∃ P, Api.g1FromSlice (Api.fqToSlice (G.one : G1).x ++ Api.fqToSlice (G.one : G1).y) = .ok P := by
  have h : (G.one : G1).y * (G.one : G1).y = (G.one : G1).x * (G.one : G1).x * (G.one : G1).x + b1 := by
    have := P1_on_curve
    rw [Fq.squared_def, Fq.squared_def] at this
    exact this
  exact ⟨_, Sm9.g1_from_slice_encode _ _ h⟩

end Sm9.C08
