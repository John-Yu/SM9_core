import Sm9.Props.C02
import Sm9.Proofs.Bilinear
/-!
# C03 — All pairing entry points agree and ignore the projective representative

Proved for all valid operands: each of `pairing`, `fast_pairing`, `G2Prepared::pairing`
depends on its operands only through the group elements they denote (`toAff`): any Jacobian
rescaling, normalised or not, and any representation of the identity (x, y, 0) gives the
same value; identity inputs give one in all three; `G2Prepared::from` never panics.  A
prepared value is an immutable list of coefficients (the model function is pure), so reuse in
any order cannot change results; `fast_pairing` and the two-call prepared API are the same
computation (`prepared_is_fast`, by `rfl`).  `pairing()` agrees with them on every valid input with `Q ∈ ⟨P2⟩`
(`pairing_eq_fast_pairing`, `all_entry_points_agree`): each Miller loop is the textbook Miller function of its own
addition chain (C02), and the reduced value does not depend on the chain (`Sm9.C02.chain_independence`).
`chain_independence_at_known_answer` is the instance at the standard's test vector (a point of order `r` not given as a
multiple of `P2`), with the published value from the kernel evaluation of `pairing()` in C02.  Interleaved reuse of one
prepared value through clones concerns hidden state of the Rust value and is left to the correspondence run.
-/
namespace Sm9.C03

/-- representative independence of all three entry points -/
theorem pairing_rep_indep (p p' : G1) (qv qv' : G2) (hp : G1.Valid p) (hp' : G1.Valid p') (hq : G2.Valid qv)
    (hq' : G2.Valid qv') (h1 : G1.toAff p = G1.toAff p') (h2 : G2.toAff qv = G2.toAff qv') :
    Api.pairing p qv = Api.pairing p' qv' ∧ Api.fast_pairing p qv = Api.fast_pairing p' qv' ∧
    (do let pr ← Api.prepare qv; Api.preparedPairing pr p) = (do let pr ← Api.prepare qv'; Api.preparedPairing pr p') := by
  have e1 := G1.to_affine_congr p p' hp hp' h1
  have e2 := G2.to_affine_congr qv qv' hq hq' h2
  exact ⟨pairing_congr p p' qv qv' e1 e2, fast_pairing_congr p p' qv qv' e1 e2, prepared_pairing_congr p p' qv qv' e1 e2⟩
theorem identity_agrees_left (p : G1) (qv : G2) (h : p.z = 0) :
    Api.pairing p qv = .ok Fq12.one ∧ Api.fast_pairing p qv = .ok Fq12.one ∧
    (do let pr ← Api.prepare qv; Api.preparedPairing pr p) = .ok Fq12.one :=
  ⟨pairing_left_identity p qv h, fast_pairing_left_identity p qv h, prepared_pairing_left_identity p qv h⟩
theorem identity_agrees_right (p : G1) (qv : G2) (h : qv.z = Fq2.zero) :
    Api.pairing p qv = .ok Fq12.one ∧ Api.fast_pairing p qv = .ok Fq12.one ∧
    (do let pr ← Api.prepare qv; Api.preparedPairing pr p) = .ok Fq12.one :=
  ⟨pairing_right_identity p qv h, fast_pairing_right_identity p qv h, prepared_pairing_right_identity p qv h⟩
theorem prepare_never_panics (qv : G2) : ∃ pr, Api.prepare qv = .ok pr := prepared_from_ok _
/-- normalisation leaves z = 0 values untouched (the reason the identity needs its own test) -/
theorem normalize_identity (p : G1) (h : p.z = 0) : Api.normalize p = p :=
  normalize_of_none p (G1.to_affine_none_of_z p h)
/-- the two final exponentiations used by the two paths agree on every input -/
theorem final_exp_variants_agree (x : Fq12) : x.final_exp = x.final_exponentiation :=
  Fq12.final_exp_eq_final_exponentiation x

example : G1.Valid (G.one : G1) ∧ G2.Valid (G.one : G2) := ⟨G1.one_valid, G2.one_valid⟩

/-- `G2Prepared::from(Q).pairing(&P)` and `fast_pairing(P, Q)` are one computation (`rfl`) -/
theorem prepared_is_fast (P : G1) (Q : G2) :
    (do let pr ← Api.prepare Q; Api.preparedPairing pr P) = Api.fast_pairing P Q := Miller.api_prepared_eq_fast P Q
open Miller in
theorem agreement_iff_chain_independence (P : G1) (Q : G2) (hPz : P.z ≠ 0) (hPv : G1.Valid P)
    (hQz : Q.z ≠ 0) (hQv : G2.Valid Q) (k : Nat) (hk : G2.toAff Q = k • G2.toAff (G.one : G2)) :
    Api.pairing P Q = Api.fast_pairing P Q ↔
      specMillerNaf (P.x / P.z ^ 2) (P.y / P.z ^ 3) (Q.x / Q.z ^ 2) (Q.y / Q.z ^ 3) ^ ((q ^ 12 - 1) / r)
        = specMiller (P.x / P.z ^ 2) (P.y / P.z ^ 3) (Q.x / Q.z ^ 2) (Q.y / Q.z ^ 3) ^ ((q ^ 12 - 1) / r) :=
  api_pairing_eq_fast_pairing_iff P Q hPz hPv hQz hQv k hk
open Miller C02 in
/-- at the standard's test vector the two textbook functions have the same reduced value, the published one -/
theorem chain_independence_at_known_answer :
    specMillerNaf kaP.x kaP.y kaQ.x kaQ.y ^ ((q ^ 12 - 1) / r)
      = specMiller kaP.x kaP.y kaQ.x kaQ.y ^ ((q ^ 12 - 1) / r) ∧
    specMillerNaf kaP.x kaP.y kaQ.x kaQ.y ^ ((q ^ 12 - 1) / r) = kaExpected := by
  have hQ : kaQ.y * kaQ.y = kaQ.x * kaQ.x * kaQ.x + b2 := by decide +kernel
  -- `kaQ` is not given as a multiple of `P2`: its order and `π(Q) = [q]Q` by kernel evaluation of the model's scalar multiplication
  have ho : r • twPt (kaQ.x, kaQ.y) = 0 := (G2.subgroup_test_iff kaQ.x kaQ.y hQ).1 (by decide +kernel)
  have hG : InG2 (twPt (kaQ.x, kaQ.y)) := by
    obtain ⟨hz, hc⟩ := point_pi1_affine kaQ.x kaQ.y
    obtain ⟨-, hv, ha⟩ := rep_of_affine _ hz _ (frobTwist_equation (kaQ.x, kaQ.y) hQ) hc
    refine ⟨ho, ?_⟩
    rw [frobHom_twPt (kaQ.x, kaQ.y) hQ, ← ha]
    exact eigen_of_test (affG2 (kaQ.x, kaQ.y)) _ (affG2_valid (kaQ.x, kaQ.y) hQ) hv ho (by decide +kernel)
  refine ⟨?_, ?_⟩
  · rw [specMillerNaf_eq_specMNaf _ _ _ _ hQ, specMiller_eq_specM _ _ _ _ hQ]
    exact specMNaf_reduced_eq_specM_reduced _ _ (by decide +kernel) _ ho (twPt_ne_zero (kaQ.x, kaQ.y) hQ)
  · have k1 : Pairings.pairing kaP kaQ = .ok kaExpected := known_answer_pairing
    exact Outcome.ok.inj ((pairing_affine_eq_specM kaP.x kaP.y (by decide +kernel) kaQ.x kaQ.y hQ hG).symm.trans k1)

/-! Agreement at `(P, Q)` gives agreement at `(−P, Q)`, `(P, −Q)` and `(P, [q]Q)`.  The premise `h` is superfluous: `−P` is
valid and `−Q`, `[q]Q` are again in `G2`, so each conclusion is `pairing_eq_fast_pairing` (below) at the new operands. -/
section orbit
variable (P : G1) (Q : G2) (hPz : P.z ≠ 0) (hPv : G1.Valid P) (hQz : Q.z ≠ 0) (hQv : G2.Valid Q)
  (k : Nat) (hk : G2.toAff Q = k • G2.toAff (G.one : G2))
include hPz hPv hQz hQv hk

theorem agreement_neg_left (h : Api.pairing P Q = Api.fast_pairing P Q) :
    Api.pairing P.neg Q = Api.fast_pairing P.neg Q :=
  Miller.api_pairing_eq_fast_pairing P.neg Q (G1.neg_valid P hPv) hQv k hk

theorem agreement_neg_right (h : Api.pairing P Q = Api.fast_pairing P Q) :
    Api.pairing P Q.neg = Api.fast_pairing P Q.neg :=
  have hG := G2.neg_correct Q hQv ▸ (Miller.inG2_of_multiple k hk).neg
  (Miller.computesPair_pairing P _ hPv (G2.neg_valid Q hQv) hG).trans
    (Miller.computesPair_fast P _ hPv (G2.neg_valid Q hQv) hG).symm

theorem agreement_mul_q (h : Api.pairing P Q = Api.fast_pairing P Q) :
    Api.pairing P (Q.mul Miller.qFr) = Api.fast_pairing P (Q.mul Miller.qFr) :=
  Miller.api_pairing_eq_fast_pairing P _ hPv (G2.mul_valid Q hQv _) (Miller.qFr.val * k)
    (by rw [G2.mul_correct Q hQv, hk, mul_nsmul'])
end orbit

/-- **`pairing(P, Q) = fast_pairing(P, Q)`** for every valid `P` and every `Q` of `⟨P2⟩`, any representatives,
    identities in any form included -/
theorem pairing_eq_fast_pairing (P : G1) (Q : G2) (hPv : G1.Valid P) (hQv : G2.Valid Q)
    (k : Nat) (hk : G2.toAff Q = k • G2.toAff (G.one : G2)) : Api.pairing P Q = Api.fast_pairing P Q :=
  Miller.api_pairing_eq_fast_pairing P Q hPv hQv k hk
theorem all_entry_points_agree (P : G1) (Q : G2) (hPv : G1.Valid P) (hQv : G2.Valid Q)
    (k : Nat) (hk : G2.toAff Q = k • G2.toAff (G.one : G2)) :
    Api.pairing P Q = Api.fast_pairing P Q ∧
    (do let pr ← Api.prepare Q; Api.preparedPairing pr P) = Api.pairing P Q :=
  ⟨Miller.api_pairing_eq_fast_pairing P Q hPv hQv k hk,
   (Miller.api_prepared_eq_fast P Q).trans (Miller.api_pairing_eq_fast_pairing P Q hPv hQv k hk).symm⟩
example : Api.pairing (G.one : G1) (G.one : G2) = Api.fast_pairing (G.one : G1) (G.one : G2) :=
  pairing_eq_fast_pairing _ _ G1.one_valid G2.one_valid 1 (one_nsmul _).symm

end Sm9.C03
