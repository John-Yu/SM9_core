import Sm9.Proofs.MontBasic
import Sm9.Proofs.MontMul
import Sm9.Proofs.MontInvert
import Sm9.Proofs.Consts
import Sm9.Proofs.Pow
/-!
# C06 — Fq and Fr arithmetic is exact integer arithmetic modulo q and r

Limb level (`Sm9.U256.*`, `Sm9.Fp.*`: the model of u256.rs / fp.rs, re-translated from the source on every run and
proved equal to it in `Gen/LimbEquiv.lean`, and compared on raw limbs by the correspondence run) refines arithmetic mod p for **every**
modulus in the SM9 range and **all** operands below it: add, sub, negate, double,
Montgomery multiplication (operand-scanning product + four REDC rows + final carry), the
dedicated squaring schedule (= mul, unconditionally), entering / leaving Montgomery form.
The two parameter sets satisfy the side conditions by kernel evaluation of the constants
extracted from the source; halving (with its top-bit path) and the binary extended Euclid
`invert` — termination within the fuel **and** x·a ≡ R² — for every prime modulus in range.
-/
namespace Sm9.C06

/-- side conditions of all refinement theorems hold for the extracted parameter sets:
    2²⁵⁵ < p < 2²⁵⁶, p odd, inv = −p⁻¹ mod 2⁶⁴, R² mod p, R mod p -/
theorem params_ok : paramsQ.Ok ∧ paramsR.Ok := ⟨paramsQ_ok, paramsR_ok⟩
theorem add_refines (a b m : Nat) (hm : m < W256) (hm2 : W256 < 2 * m) (ha : a < m) (hb : b < m) :
    U256.add a b m < m ∧ U256.add a b m = (a + b) % m := U256.add_refines a b m hm hm2 ha hb
theorem sub_refines (a b m : Nat) (hm : m < W256) (ha : a < m) (hb : b < m) :
    U256.sub a b m < m ∧ (U256.sub a b m + b) % m = a := U256.sub_refines a b m hm ha hb
theorem neg_refines (a m : Nat) (hm : m < W256) (ha : a < m) :
    U256.neg a m < m ∧ (U256.neg a m + a) % m = 0 := U256.neg_refines a m hm ha
theorem double_refines (a m : Nat) (hm : m < W256) (hm2 : W256 < 2 * m) (ha : a < m) :
    U256.mul2 a m < m ∧ U256.mul2 a m = (2 * a) % m := U256.mul2_refines a m hm ha
/-- Montgomery multiplication: the canonical representative of a·b·R⁻¹ mod m -/
theorem mul_refines (a b m inv : Nat) (hm : m < W256) (hm2 : W256 < 2 * m)
    (hinv : (m * inv) % 2 ^ 64 = 2 ^ 64 - 1) (ha : a < m) (hb : b < m) :
    U256.mul a b m inv < m ∧ (U256.mul a b m inv * W256) % m = (a * b) % m :=
  U256.mul_refines a b m inv hm hm2 hinv ha hb
/-- the dedicated squaring (off-diagonal / doubling / diagonal schedule) equals `mul a a`
    for all inputs -/
theorem square_eq_mul (a m inv : Nat) : U256.square a m inv = U256.mul a a m inv :=
  U256.square_eq_mul a m inv
/-- the operand-scanning product is the integer product (any base, any length) -/
theorem schoolbook_product (B : Nat) (d e : List Nat) :
    Limb.value B (Limb.mulLimbs B d e) = Limb.value B d * Limb.value B e := Limb.mulLimbs_spec B d e
/-- entering Montgomery form is ·R, leaving it is ·R⁻¹; the two are inverse on [0, p) -/
theorem new_mul_factor_eq {P : MontParams} (hP : P.Ok) (x : Nat) (hx : x < P.modulus) :
    Fp.new_mul_factor P x = (x * W256) % P.modulus := Fp.new_mul_factor_eq hP x hx
theorem into_u256_refines {P : MontParams} (hP : P.Ok) (x : Nat) (hx : x < P.modulus) :
    Fp.into_u256 P x < P.modulus ∧ (Fp.into_u256 P x * W256) % P.modulus = x := Fp.into_u256_refines hP x hx
theorem into_new {P : MontParams} (hP : P.Ok) (x : Nat) (hx : x < P.modulus) :
    Fp.into_u256 P (Fp.new_mul_factor P x) = x := Fp.into_u256_new_mul_factor hP x hx
theorem into_mul {P : MontParams} (hP : P.Ok) (a b : Nat) (ha : a < P.modulus) (hb : b < P.modulus) :
    Fp.into_u256 P (Fp.mul P a b) = Fp.into_u256 P a * Fp.into_u256 P b % P.modulus :=
  Fp.into_u256_mul hP a b ha hb
/-- halving modulo m (the `set_bit(255)` carry path included) -/
theorem div2_refines (b m : Nat) (hm : m < W256) (hm2 : W256 < 2 * m) (hodd : m % 2 = 1) (hb : b < m) :
    U256.div2 b m < m ∧ (2 * U256.div2 b m) % m = b := U256.div2_refines b m hm hm2 hodd hb
/-- binary extended Euclid seeded with R²: terminates and returns R²·a⁻¹ -/
theorem invert_refines (a m r2 : Nat) (hp : Nat.Prime m) (hm : m < W256) (hm2 : W256 < 2 * m) (ha0 : 0 < a)
    (ha : a < m) (hr : r2 < m) : ∃ x, U256.invert a m r2 = some x ∧ x < m ∧ (x * a) % m = r2 % m :=
  U256.invert_refines a m r2 hp hm hm2 ha0 ha hr
/-- `inverse`: `None` exactly for zero; otherwise terminates with y such that y·x = one (Montgomery form) -/
theorem inverse_refines_q (x : Nat) (hx : x < Consts.FQ) :
    (x = 0 → Fp.inverse paramsQ x = some none) ∧
    (x ≠ 0 → ∃ y, Fp.inverse paramsQ x = some (some y) ∧ y < Consts.FQ ∧ Fp.mul paramsQ y x = Consts.FQ_ONE) :=
  Fp.inverse_refines_q x hx
theorem inverse_refines_r (x : Nat) (hx : x < Consts.FR) :
    (x = 0 → Fp.inverse paramsR x = some none) ∧
    (x ≠ 0 → ∃ y, Fp.inverse paramsR x = some (some y) ∧ y < Consts.FR ∧ Fp.mul paramsR y x = Consts.FR_ONE) :=
  Fp.inverse_refines_r x hx
theorem fq_pow_eq (x : Fq) (e : Nat) : x.pow e = x ^ e := Fq.pow_eq x e
theorem fr_pow_eq (x : Fr) (e : Nat) : x.pow e = x ^ e := Fr.pow_eq x e
theorem fq_inverse_none_iff (x : Fq) : x.inverse = none ↔ x = 0 := by
  refine ⟨fun h => by_contra fun h0 => ?_, fun h => h ▸ Fq.inverse_zero⟩
  rw [Fq.inverse_eq x h0] at h; cases h
theorem fq_inverse_mul (x y : Fq) (h : x.inverse = some y) : y * x = 1 := by
  have h0 : x ≠ 0 := fun e => by rw [e, Fq.inverse_zero] at h; cases h
  rw [Fq.inverse_eq x h0, Option.some.injEq] at h
  exact h ▸ Fq.pow_sub_two_mul x h0

example : U256.add (q - 1) 1 q = 0 ∧ U256.sub 0 1 q = q - 1 ∧ U256.mul2 (q - 1) q = q - 2 ∧
    Fp.mul paramsQ paramsQ.one paramsQ.one = paramsQ.one := by
  decide +kernel

end Sm9.C06
