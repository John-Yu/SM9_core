import Sm9.Proofs.MontBasic
import Sm9.Proofs.MontMul
import Sm9.Proofs.Divrem
import Sm9.Proofs.Consts
/-!
# C18 — Results do not depend on the build profile
The limb model is written over unbounded naturals; the theorems below show that every
quantity the Rust code computes in a fixed-width type, and that rustc checks in the dev
profile, is in range on **all** inputs — so the checked and the wrapping build compute the
same values — and that the `debug_assert!` self-checks hold.  The decoders carry no
`debug_assert!` (D4) and no panic outcome (C08).
-/
namespace Sm9.C18

/-- `mac_with_carry!` / `mac`: a + b·c + carry fits the u128 it is widened to -/
theorem mac_no_overflow (a b c carry : Nat) (ha : a < 2^64) (hb : b < 2^64) (hc : c < 2^64) (hk : carry < 2^64) :
    a + b * c + carry < 2^128 := by
  have : b * c ≤ (2^64 - 1) * (2^64 - 1) := Nat.mul_le_mul (by omega) (by omega)
  omega
/-- … and its two halves are a 64-bit limb and a 64-bit carry -/
theorem mac_parts (a b c carry : Nat) (ha : a < 2^64) (hb : b < 2^64) (hc : c < 2^64) (hk : carry < 2^64) :
    (Limb.mac B64 a b c carry).1 < 2^64 ∧ (Limb.mac B64 a b c carry).2 < 2^64 :=
  ⟨Limb.mac_fst_lt B64 U256.B64_pos a b c carry, Limb.mac_snd_lt B64 a b c carry ha hb hc hk⟩
theorem adc_no_overflow (a b carry : Nat) (ha : a < 2^64) (hb : b < 2^64) (hk : carry < 2^64) :
    a + b + carry < 2^128 := by omega
/-- `64 - ha.len()` in `from_hash` is computed only under `ha.len() <= 64`; `32 - len`
    and `64 - len` in `from_slice` only in their match arms -/
theorem length_subtractions (n : Nat) : (n ≤ 64 → 64 - n + n = 64) ∧ (1 ≤ n ∧ n ≤ 31 → 32 - n + n = 32) := by
  constructor <;> intro h <;> omega
/-- shift amounts: `1 << bit` with bit = n & 0x3f < 64, `1 << pos` with pos < 128 for the loop counter -/
theorem shift_amounts (n : Nat) : n % 64 < 64 ∧ loopBits < 128 := by
  refine ⟨Nat.mod_lt _ (by norm_num), ?_⟩
  decide +kernel
/-- `U512::new`'s `debug_assert!(!carry)`: c1·m + c0 < 2^512 for 256-bit operands -/
theorem u512_new_no_carry (c1 c0 m : Nat) (h1 : c1 < W256) (h0 : c0 < W256) (hm : m < W256) :
    c1 * m + c0 < W256 * W256 :=
  calc c1 * m + c0 < c1 * W256 + W256 := Nat.add_lt_add_of_le_of_lt (Nat.mul_le_mul_left _ hm.le) h0
    _ = (c1 + 1) * W256 := (Nat.succ_mul _ _).symm
    _ ≤ W256 * W256 := Nat.mul_le_mul_right _ h1
/-- the two `debug_assert!` self-checks of u512.rs hold on all inputs: `U512::new`'s `!carry`
    and `divrem`'s reconstruction check -/
theorem debug_asserts_hold (n m : Nat) (hm0 : 0 < m) (hm : m < W256) (hn : n < W512) :
    (U512.divrem n m).2 = true := (U512.divrem_spec n m hm0 hm hn).2.2
theorem u512_new_assert (c1 c0 m : Nat) (h0 : c0 < W256) (h : c1 * m + c0 < W512) :
    U512.new c1 c0 m = (c1 * m + c0, true) := U512.new_spec c1 c0 m h0 h
/-- the conditional subtractions never underflow: results of add/sub/double/neg are canonical -/
theorem no_underflow (a b m : Nat) (hm : m < W256) (hm2 : W256 < 2 * m) (ha : a < m) (hb : b < m) :
    U256.add a b m < m ∧ U256.sub a b m < m ∧ U256.mul2 a m < m ∧ U256.neg a m < m :=
  ⟨(U256.add_refines a b m hm hm2 ha hb).1, (U256.sub_refines a b m hm ha hb).1,
   (U256.mul2_refines a m hm ha).1, (U256.neg_refines a m hm ha).1⟩

end Sm9.C18
