import Sm9.Proofs.JacobianInst2
import Sm9.Proofs.SpecGroup
/-!
# C05 — Scalar multiplication is the Z_r-module action on G1 and G2
`P * k` is `k.val • P` in Mathlib's group, for every valid P (identity included, any
representation) and every scalar — generic over the field, and for the model's own G1.
With r·P1 = O (kernel evaluation), P1 ≠ O and r prime (Pratt certificate) the generator
has order exactly r, and the module laws follow from Mathlib's `AddCommGroup`.
The same for G2 over Fq2, including every point of the twist (not only the order-r subgroup).
-/
namespace Sm9.C05
open Jac

theorem mul_refines_nsmul {F : Type} [Field F] [DecidableEq F] (b : F) (h2 : (2 : F) ≠ 0)
    (hno2 : ∀ x : F, x ^ 3 + b ≠ 0) (P : G F) (hP : Valid b P) (k : Fr) :
    toAff b (@G.mul F (feOfField F) P k) = k.val • toAff b P ∧ Valid b (@G.mul F (feOfField F) P k) :=
  (mul_spec b h2 hno2 P hP k).symm
theorem g1_mul (P : G1) (hP : G1.Valid P) (k : Fr) : G1.toAff (P.mul k) = k.val • G1.toAff P :=
  G1.mul_correct P hP k
theorem g1_mul_add (P : G1) (hP : G1.Valid P) (a b : Fr) :
    G1.toAff ((P.mul a).add (P.mul b)) = (a.val + b.val) • G1.toAff P := by
  rw [G1.add_correct _ _ (G1.mul_valid P hP a) (G1.mul_valid P hP b), G1.mul_correct P hP a,
    G1.mul_correct P hP b, add_smul]
theorem g1_mul_mul (P : G1) (hP : G1.Valid P) (a b : Fr) :
    G1.toAff ((P.mul a).mul b) = (b.val * a.val) • G1.toAff P := by
  rw [G1.mul_correct _ (G1.mul_valid P hP a) b, G1.mul_correct P hP a, mul_smul]
theorem g1_mul_zero (P : G1) (hP : G1.Valid P) : G1.toAff (P.mul 0) = 0 := by
  rw [G1.mul_correct P hP 0]
  have : (0 : Fr).val = 0 := Fr.zero_val
  rw [this, zero_smul]
theorem g1_mul_one (P : G1) (hP : G1.Valid P) : G1.toAff (P.mul 1) = G1.toAff P := by
  rw [G1.mul_correct P hP 1]
  have : (1 : Fr).val = 1 := Fr.one_val
  rw [this, one_smul]
/-- scalars act through their residue mod r on points killed by r -/
theorem g1_mul_mod_r (P : G1) (hP : G1.Valid P) (hr : r • G1.toAff P = 0) (a b : Fr) :
    G1.toAff ((P.mul a).add (P.mul b)) = G1.toAff (P.mul (a + b)) := by
  rw [g1_mul_add P hP, G1.mul_correct P hP (a + b), nsmul_eq_mod_nsmul _ hr]
  rfl
/-- r·P1 = O and P1 ≠ O; r is prime: the generator has order exactly r -/
theorem order_P1 : r • G1.toAff (G.one : G1) = 0 ∧ G1.toAff (G.one : G1) ≠ 0 ∧ Nat.Prime r :=
  ⟨G1.one_order, G1.toAff_one_ne_zero, r_prime⟩
theorem g2_mul (P : G2) (hP : G2.Valid P) (k : Fr) : G2.toAff (P.mul k) = k.val • G2.toAff P :=
  G2.mul_correct P hP k
theorem g2_mul_add (P : G2) (hP : G2.Valid P) (a b : Fr) :
    G2.toAff ((P.mul a).add (P.mul b)) = (a.val + b.val) • G2.toAff P := by
  rw [G2.add_correct _ _ (G2.mul_valid P hP a) (G2.mul_valid P hP b), G2.mul_correct P hP a,
    G2.mul_correct P hP b, add_smul]
/-- r·P2 = O and P2 ≠ O: the generator of G2 has order exactly r -/
theorem order_P2 : r • G2.toAff (G.one : G2) = 0 ∧ G2.toAff (G.one : G2) ≠ 0 :=
  ⟨G2.one_order, G2.toAff_one_ne_zero⟩
theorem order_P2_kernel : (((G.one : G2).mul (-(1 : Fr))).add G.one).z = 0 ∧ (G.one : G2).z ≠ 0 :=
  ⟨G2.one_order_test, one_ne_zero⟩
theorem mul_zero_scalar {F} [FieldElement F] (p : G F) : p.mul 0 = G.zero := by
  unfold G.mul G.mulBits
  have : bitsMSB (0 : Fr).val = [] := by decide +kernel
  rw [this]; rfl

/-! ## against the independent double-and-add over affine arithmetic

`Sm9.Spec.ptMul` (the oracle of the correspondence run) is a right-to-left double-and-add over the textbook affine law `ptAdd`,
on `Option (x, y)` with naturals mod q — written without reference to the Jacobian code.  For every valid point in any
representation and every scalar it returns the affine coordinates of the model's `P * k` (Proofs/SpecGroup.lean:
`ptMul K k (enc a) = enc (k • a)` for any additive monoid that `ptAdd` implements, then C04/C05's refinement of Mathlib's group). -/
theorem mul_is_independent_double_and_add :
    (∀ (P : G1) (k : Fr), G1.Valid P →
      Spec.ptMul Spec.opsQ k.val (SpecGroup.encPt1 (G1.toAff P)) = SpecGroup.encPt1 (G1.toAff (P.mul k))) ∧
    (∀ (P : G2) (k : Fr), G2.Valid P →
      Spec.ptMul Spec.opsQ2 k.val (SpecCurve.encPt (G2.toAff P)) = SpecCurve.encPt (G2.toAff (P.mul k))) :=
  ⟨fun P k hP => SpecGroup.g1_mul_independent P hP k, fun P k hP => SpecGroup.g2_mul_independent P hP k⟩
/-- the oracle's generators are the model's -/
theorem generators_are_the_standards :
    Spec.P1 = SpecGroup.encPt1 (G1.toAff (G.one : G1)) ∧ Spec.P2 = SpecCurve.encPt (G2.toAff (G.one : G2)) :=
  ⟨SpecGroup.P1_eq, SpecGroup.P2_eq⟩

end Sm9.C05
