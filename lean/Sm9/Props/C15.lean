import Sm9.Proofs.JacobianInst2
/-!
# C15 — Point equality, normalisation and affine conversion respect the group element
`==` holds exactly when the two values denote the same point of the curve (generic over
the field; and for the model's G1 and G2): hence an equivalence relation, invariant under
rescaling, separating P from −P and from the identity, with every z = 0 value the
identity.  `to_affine` is `None` exactly for z = 0 and otherwise (x/z², y/z³) — the z = 1
shortcut and the inversion path agree; `normalize` keeps the point, yields z = 1 and
leaves the identity untouched.
-/
namespace Sm9.C15
open Jac

theorem eq_iff_same_point {F : Type} [Field F] [DecidableEq F] (b : F) (P Q : G F) (hP : Valid b P) (hQ : Valid b Q) :
    @G.eq F (feOfField F) P Q = true ↔ toAff b P = toAff b Q := eq_iff b P Q hP hQ
theorem g1_eq_iff (P Q : G1) (hP : G1.Valid P) (hQ : G1.Valid Q) : P.eq Q = true ↔ G1.toAff P = G1.toAff Q :=
  G1.eq_iff P Q hP hQ
theorem g1_eq_symm (P Q : G1) (hP : G1.Valid P) (hQ : G1.Valid Q) : P.eq Q = true ↔ Q.eq P = true := by
  rw [G1.eq_iff P Q hP hQ, G1.eq_iff Q P hQ hP, eq_comm]
theorem g1_eq_trans (P Q R : G1) (hP : G1.Valid P) (hQ : G1.Valid Q) (hR : G1.Valid R)
    (h1 : P.eq Q = true) (h2 : Q.eq R = true) : P.eq R = true := by
  rw [G1.eq_iff _ _ hP hQ] at h1; rw [G1.eq_iff _ _ hQ hR] at h2
  rw [G1.eq_iff _ _ hP hR, h1, h2]
theorem g2_eq_iff (P Q : G2) (hP : G2.Valid P) (hQ : G2.Valid Q) : P.eq Q = true ↔ G2.toAff P = G2.toAff Q :=
  G2.eq_iff P Q hP hQ
theorem g2_eq_symm (P Q : G2) (hP : G2.Valid P) (hQ : G2.Valid Q) : P.eq Q = true ↔ Q.eq P = true := by
  rw [G2.eq_iff P Q hP hQ, G2.eq_iff Q P hQ hP, eq_comm]
theorem g2_eq_trans (P Q R : G2) (hP : G2.Valid P) (hQ : G2.Valid Q) (hR : G2.Valid R)
    (h1 : P.eq Q = true) (h2 : Q.eq R = true) : P.eq R = true := by
  rw [G2.eq_iff _ _ hP hQ] at h1; rw [G2.eq_iff _ _ hQ hR] at h2
  rw [G2.eq_iff _ _ hP hR, h1, h2]
theorem g2_to_affine_spec (P : G2) :
    P.to_affine = if P.z = 0 then none else some ⟨P.x / P.z ^ 2, P.y / P.z ^ 3⟩ := G2.to_affine_spec P
theorem g2_normalize_spec (P : G2) (hP : G2.Valid P) :
    G2.toAff (Api.normalize P) = G2.toAff P ∧ (P.z ≠ 0 → (Api.normalize P).z = 1) ∧
    (P.z = 0 → Api.normalize P = P) ∧ G2.Valid (Api.normalize P) := G2.normalize_spec P hP
theorem g1_eq_refl (p : G1) : p.eq p = true := fe_Fq_eq ▸ Jac.eq_refl p
theorem g2_eq_refl (p : G2) : p.eq p = true := fe_Fq2_eq ▸ Jac.eq_refl p
/-- P and −P are different unless P is the identity (no 2-torsion) -/
theorem g1_ne_neg (P : G1) (hP : G1.Valid P) (hz : P.z ≠ 0) : P.eq P.neg = false :=
  fe_Fq_eq ▸ Jac.eq_neg_false b1 Fq.two_ne_zero Fq.no_two_torsion P hP hz
theorem g1_eq_identity_iff (p o : G1) (ho : o.z = 0) : p.eq o = true ↔ p.z = 0 := G1.eq_zero_iff p o ho
theorem g1_is_zero_iff (p : G1) : p.is_zero = true ↔ p.z = 0 := G1.is_zero_iff p
theorem g2_is_zero_iff (p : G2) : p.is_zero = true ↔ p.z = 0 := G2.is_zero_iff p
theorem g1_to_affine_spec (P : G1) :
    P.to_affine = if P.z = 0 then none else some ⟨P.x / P.z ^ 2, P.y / P.z ^ 3⟩ := G1.to_affine_spec P
theorem g1_normalize_spec (P : G1) (hP : G1.Valid P) :
    G1.toAff (Api.normalize P) = G1.toAff P ∧ (P.z ≠ 0 → (Api.normalize P).z = 1) ∧
    (P.z = 0 → Api.normalize P = P) ∧ G1.Valid (Api.normalize P) := G1.normalize_spec P hP

end Sm9.C15
