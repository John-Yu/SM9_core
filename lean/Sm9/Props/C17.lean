import Sm9.Proofs.SpecField
import Sm9.Proofs.ChainIndepSm9
/-!
# C17 — the F_q¹² tower engine and final exponentiation on every element
Ring and **field** structure of Fq4 = Fq2[v]/(v²−u) and Fq12 = Fq4[w]/(w³−v) on the model's own
interleaved / Karatsuba products; sparse products; squarings; norm-based inverses; the coded
Frobenius maps are the power maps x ↦ x^(q^k); `pow(u128)` is exponentiation; **both**
final-exponentiation routines map every non-zero x to x^((q¹²−1)/r) (and agree on all inputs).
The prepared (line-coefficient) Miller loop is the textbook Miller function up to a factor in
`Fq2ˣ`, which the final exponentiation removes (`prepared_miller_textbook`, `subfield_factor_killed`;
the coded tangent line is the textbook line times such a factor: `tangent_line_textbook`;
the sparse product is the product: `sparse_line_product`).
The numerator/denominator loop over the signed-digit chain is the textbook function of that chain up to
sign (`signed_chain_miller_textbook`); its value and the prepared loop's have the same `(q¹²−1)/r`-th power
(`miller_loops_agree_after_final_exp`: the Miller function does not depend on the addition chain).
-/
namespace Sm9.C17

/-- Fq4 product is the product in Fq2[v]/(v² − u) -/
theorem fq4_mul_formula (x y : Fq4) :
    x * y = { c0 := x.c0 * y.c0 + x.c1 * y.c1 * Fq2.i, c1 := x.c0 * y.c1 + x.c1 * y.c0 } := by
  ext : 1 <;> simp
/-- Fq12 Karatsuba product is the product in Fq4[w]/(w³ − v) -/
theorem fq12_mul_formula (x y : Fq12) :
    x * y = { c0 := x.c0 * y.c0 + (x.c1 * y.c2 + x.c2 * y.c1) * Fq4.v,
              c1 := x.c0 * y.c1 + x.c1 * y.c0 + x.c2 * y.c2 * Fq4.v,
              c2 := x.c0 * y.c2 + x.c1 * y.c1 + x.c2 * y.c0 } := by
  ext : 1 <;> simp
theorem fq4_mul_comm (x y : Fq4) : x * y = y * x := mul_comm x y
theorem fq4_mul_assoc (x y z : Fq4) : x * y * z = x * (y * z) := mul_assoc x y z
theorem fq12_mul_comm (x y : Fq12) : x * y = y * x := mul_comm x y
theorem fq12_mul_assoc (x y z : Fq12) : x * y * z = x * (y * z) := mul_assoc x y z
theorem fq12_distrib (x y z : Fq12) : x * (y + z) = x * y + x * z := mul_add x y z
theorem fq4_squared_eq_mul (x : Fq4) : x.squared = x * x := Fq4.squared_eq_mul x
theorem fq12_squared_eq_mul (x : Fq12) : x.squared = x * x := Fq12.squared_eq_mul x
theorem v_squared : (Fq4.v * Fq4.v : Fq4) = { c0 := Fq2.i, c1 := 0 } := Fq4.v_sq
theorem fq4_mul_by_nonresidue (x : Fq4) : x.mul_by_nonresidue = x * Fq4.v := Fq4.mul_by_nonresidue_eq x
/-- sparse products, with the sparsity hypothesis of the Rust comment -/
theorem mul_1_eq_mul (x y : Fq4) (h : y.c0 = 0) : x.mul_1 y = x * y := Fq4.mul_1_eq_mul x y h
theorem mul_015_eq_mul (x y : Fq12) (h1 : y.c1 = 0) (h2 : y.c2.c0 = 0) : x.mul_015 y = x * y :=
  Fq12.mul_015_eq_mul x y h1 h2
theorem mul_1_formula (x y : Fq4) : x.mul_1 y = x * { c0 := 0, c1 := y.c1 } := Fq4.mul_1_formula x y
theorem mul_015_formula (x y : Fq12) :
    x.mul_015 y = x * { c0 := y.c0, c1 := 0, c2 := { c0 := 0, c1 := y.c2.c1 } } := Fq12.mul_015_formula x y
theorem frobenius_constants :
    Fq4.alpha1 = nr.pow ((Consts.FQ - 1) / 12) ∧ Fq4.alpha2 = nr.pow ((Consts.FQ - 1) / 6) ∧
    Fq4.alpha3 = nr.pow ((Consts.FQ - 1) / 4) ∧ Fq4.alpha4 = nr.pow ((Consts.FQ - 1) / 3) ∧
    Fq4.alpha5 = nr.pow (5 * ((Consts.FQ - 1) / 12)) ∧ Fq4.beta = Fq4.alpha3 :=
  ⟨alpha1_eq, alpha2_eq, alpha3_eq, alpha4_eq, alpha5_eq, beta_eq⟩
/-- the powers 1, 2, 3, 6, the only ones the pairing code uses on Fq12, select the four arms; an
    unsupported power panics (`unimplemented!`), shown here for 4 -/
theorem frobenius_supported (x : Fq12) :
    x.frobenius_map 1 = .ok x.frob1 ∧ x.frobenius_map 2 = .ok x.frob2 ∧
    x.frobenius_map 3 = .ok x.frob3 ∧ x.frobenius_map 6 = .ok x.frob6 ∧ x.frobenius_map 4 = .panic :=
  ⟨rfl, rfl, rfl, rfl, rfl⟩
/-- exponent constants of the two hard-part chains -/
theorem chain_exponents : Consts.SM9_A3 = 6 * tParam + 5 ∧ Consts.SM9_A2 = 6 * tParam ^ 2 + 1 ∧
    Consts.SM9_NINE = 9 ∧ Consts.SM9_S = tParam := ⟨a3_eq, a2_eq, nine_eq, S_eq⟩

theorem fq2_inverse (x : Fq2) (h : x ≠ 0) : ∃ y, x.inverse = some y ∧ y * x = 1 := Fq2.inverse_correct x h
theorem fq4_inverse (x : Fq4) (h : x ≠ 0) : ∃ y, x.inverse = some y ∧ y * x = 1 := Fq4.inverse_correct x h
theorem fq12_inverse (x : Fq12) (h : x ≠ 0) : ∃ y, x.inverse = some y ∧ y * x = 1 := Fq12.inverse_correct x h
theorem inverse_zero : (0 : Fq4).inverse = none ∧ (0 : Fq12).inverse = none := ⟨Fq4.inverse_zero, Fq12.inverse_zero⟩
theorem tower_irreducible : (∀ s : Fq2, s * s ≠ Fq2.i) ∧ (∀ s : Fq4, s ^ 3 ≠ Fq4.v) := ⟨Fq2.i_not_sq, Fq4.v_not_cube⟩
theorem cardinalities : Fintype.card Fq2 = q ^ 2 ∧ Fintype.card Fq4 = q ^ 4 ∧ Fintype.card Fq12 = q ^ 12 :=
  ⟨Fq2.card, Fq4.card, Fq12.card⟩
theorem frobenius_is_power (x : Fq12) :
    x.frob1 = x ^ q ∧ x.frob2 = x ^ q ^ 2 ∧ x.frob3 = x ^ q ^ 3 ∧ x.frob6 = x ^ q ^ 6 :=
  ⟨Fq12.frob1_eq_pow x, Fq12.frob2_eq_pow x, Fq12.frob3_eq_pow x, Fq12.frob6_eq_pow x⟩
theorem frobenius_map_eq_pow (x : Fq12) (k : Nat) (hk : k = 1 ∨ k = 2 ∨ k = 3 ∨ k = 6) :
    x.frobenius_map k = .ok (x ^ q ^ k) := Fq12.frobenius_map_eq_pow x k hk
/-- small-exponent powering: fuel 128 suffices for every u128 -/
theorem pow_u128_eq (x : Fq12) (e : Nat) (he : e < 2 ^ 128) : x.pow_u128 e = x ^ e := Fq12.pow_u128_eq x e he
theorem final_exponentiation_eq_pow (x : Fq12) (hx : x ≠ 0) :
    x.final_exponentiation = .ok (some (x ^ ((q ^ 12 - 1) / r))) := Fq12.final_exponentiation_eq_pow x hx
theorem final_exp_eq_pow (x : Fq12) (hx : x ≠ 0) :
    x.final_exp = .ok (some (x ^ ((q ^ 12 - 1) / r))) := Fq12.final_exp_eq_pow x hx
theorem final_exp_zero : (0 : Fq12).final_exp = .ok none ∧ (0 : Fq12).final_exponentiation = .ok none :=
  ⟨Fq12.final_exp_zero, Fq12.final_exponentiation_zero⟩
theorem final_exp_variants_agree (x : Fq12) : x.final_exp = x.final_exponentiation :=
  Fq12.final_exp_eq_final_exponentiation x
theorem r_divides : r ∣ q ^ 12 - 1 := Fq12.r_dvd

open Miller in
/-- the tangent step: new point is the doubling, and the coded line is `κ ·` (textbook tangent at `T`
    evaluated at `P`) with `κ = c0·u ∈ Fq2ˣ` -/
theorem tangent_line_textbook (T : G2) (xP yP : Fq) (hz : T.z ≠ 0) (hy : T.y ≠ 0) :
    (G2m.g_tangent T).1 = T.double ∧ (G2m.g_tangent T).2.1 ≠ 0 ∧
    G2Prepared.get_fq12 (G2m.g_tangent T).2 (Fq2.new yP 0).mul_by_nonresidue xP
      = Fq12.ofFq2 ((G2m.g_tangent T).2.1 * Fq2.i)
        * lineSpec (T.x / T.z ^ 2) (T.y / T.z ^ 3)
            (3 * (T.x / T.z ^ 2) ^ 2 / (2 * (T.y / T.z ^ 3))) xP yP :=
  g_tangent_line T xP yP hz hy
open Miller in
theorem sparse_line_product (f : Fq12) (c : Fq2 × Fq2 × Fq2) (t1 : Fq2) (x : Fq) :
    f.mul_015 (G2Prepared.get_fq12 c t1 x) = f * G2Prepared.get_fq12 c t1 x := mul_015_get_fq12 f c t1 x
open Miller in
theorem prepared_miller_textbook (xP yP : Fq) (xQ yQ : Fq2) (hQ : yQ * yQ = xQ * xQ * xQ + b2)
    (k : Nat) (hk : twPt (xQ, yQ) = k • twPt genXY) :
    ∃ κ : Fq2, κ ≠ 0 ∧
      (do let pr ← G2Prepared.from_ (⟨xQ, yQ, 1⟩ : G2); pr.miller_loop (⟨xP, yP, 1⟩ : G1))
        = .ok (Fq12.ofFq2 κ * specMiller xP yP xQ yQ) :=
  prepared_miller_eq_spec_G2 xP yP xQ yQ hQ k hk
open Miller in
theorem subfield_factor_killed (κ : Fq2) (hκ : κ ≠ 0) : Fq12.ofFq2 κ ^ ((q ^ 12 - 1) / r) = 1 :=
  ofFq2_pow_final κ hκ
theorem subfield_order_divides : q ^ 2 - 1 ∣ (q ^ 12 - 1) / r := Miller.fq2_card_dvd

open Miller in
theorem eval_tangent_textbook (T : G2) (P : G1) (hz : T.z ≠ 0) (hy : T.y ≠ 0) :
    (G2m.eval_g_tangent T P).2 ≠ 0 ∧
    (G2m.eval_g_tangent T P).2 = Fq12.ofFq2 (T.z*T.z*T.z*T.y) * Fq12.w ^ 3 ∧
    (G2m.eval_g_tangent T P).1 = -((G2m.eval_g_tangent T P).2 *
       lineSpec (T.x/T.z^2) (T.y/T.z^3) (3*(T.x/T.z^2)^2 / (2*(T.y/T.z^3))) P.x P.y) :=
  eval_g_tangent_line T P hz hy
open Miller in
theorem eval_line_textbook (T R : G2) (P : G1) (hz : T.z ≠ 0) (hRz : R.z ≠ 0)
    (hx : T.x/T.z^2 ≠ R.x/R.z^2) :
    (G2m.eval_g_line T R P).2 ≠ 0 ∧
    (G2m.eval_g_line T R P).1 = -((G2m.eval_g_line T R P).2 *
       lineSpec (T.x/T.z^2) (T.y/T.z^3)
         ((R.y/R.z^3 - T.y/T.z^3)/(R.x/R.z^2 - T.x/T.z^2)) P.x P.y) :=
  ⟨(eval_g_line_line T R P hz hRz hx).1, (eval_g_line_line T R P hz hRz hx).2.2⟩
open Miller in
theorem signed_chain_miller_textbook (P : G1) (xQ yQ : Fq2) (hQ : yQ * yQ = xQ * xQ * xQ + b2)
    (k : Nat) (hk : twPt (xQ, yQ) = k • twPt genXY) :
    G2m.miller_loop (⟨xQ, yQ, 1⟩ : G2) P = .ok (-specMillerNaf P.x P.y xQ yQ) :=
  naf_miller_eq_spec_G2 P xQ yQ hQ k hk
open Miller in
/-- **both Miller-loop variants agree up to factors that the final exponentiation removes**: for every affine
    `P` of `E(Fq)` and every multiple `Q ≠ O` of `P2`, the value of the numerator/denominator loop over the
    signed-digit chain and the value of the prepared loop over the binary chain have the same
    `(q¹²−1)/r`-th power (chain independence of the Miller function, Proofs/ChainIndep.lean, ChainIndepSm9.lean) -/
theorem miller_loops_agree_after_final_exp (xP yP : Fq) (hP : yP * yP = xP * xP * xP + b1) (xQ yQ : Fq2)
    (hQ : yQ * yQ = xQ * xQ * xQ + b2) (k : Nat) (hk : twPt (xQ, yQ) = k • twPt genXY) :
    ∃ f g : Fq12,
      G2m.miller_loop (⟨xQ, yQ, 1⟩ : G2) (⟨xP, yP, 1⟩ : G1) = .ok f ∧
      (do let pr ← G2Prepared.from_ (⟨xQ, yQ, 1⟩ : G2); pr.miller_loop (⟨xP, yP, 1⟩ : G1)) = .ok g ∧
      f ^ ((q ^ 12 - 1) / r) = g ^ ((q ^ 12 - 1) / r) := by
  obtain ⟨κ, hκ, hg⟩ := prepared_miller_eq_spec_G2 xP yP xQ yQ hQ k hk
  refine ⟨_, _, naf_miller_eq_spec_G2 (⟨xP, yP, 1⟩ : G1) xQ yQ hQ k hk, hg, ?_⟩
  rw [neg_pow, neg_one_pow_final, one_mul, mul_pow, ofFq2_pow_final κ hκ, one_mul]
  exact specMillerNaf_reduced_eq_specMiller_reduced xP yP hP xQ yQ hQ k hk
theorem neg_one_killed : (-1 : Fq12) ^ ((q ^ 12 - 1) / r) = 1 := Miller.neg_one_pow_final

/-! ## the tower is `F_q[w]/(w¹²+2)`, against the independent schoolbook implementation

`toF12` is the coordinate vector of a tower element in the basis `1, w, …, w¹¹` (`w ↦ X`, `v = w³`, `u = w⁶`:
`toF12_w/v/u`), and the oracle's schoolbook product and square-and-multiply power on such vectors (`Sm9.Spec.F12.mul`, `pow`:
multiply as polynomials, replace `w¹²` by `−2`) are the tower's product and power — on **every** element (Proofs/SpecField.lean). -/
open Sm9.SpecField in
theorem tower_is_schoolbook_extension (x y : Fq12) (e : Nat) :
    Spec.F12.mul (toF12 x) (toF12 y) = toF12 (x * y) ∧ Spec.F12.add (toF12 x) (toF12 y) = toF12 (x + y) ∧
    Spec.F12.pow (toF12 x) e = toF12 (x ^ e) ∧ Spec.F12.one = toF12 (1 : Fq12) ∧ Function.Injective toF12 :=
  ⟨toF12_mul x y, toF12_add x y, toF12_pow x e, toF12_one, toF12_injective⟩
open Sm9.SpecField in
theorem tower_generators_in_flat_basis :
    toF12 Fq12.w = Spec.F12.mono 1 1 ∧ toF12 ⟨Fq4.v, 0, 0⟩ = Spec.F12.mono 3 1 ∧
    toF12 (Fq12.ofFq2 Fq2.i) = Spec.F12.mono 6 1 := ⟨toF12_w, toF12_v, toF12_u⟩

end Sm9.C17
