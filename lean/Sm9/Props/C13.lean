import Sm9.Proofs.Conversions
import Sm9.Proofs.FqField
import Sm9.Model.Api
import Sm9.Proofs.LibScalar
/-!
# C13 — Byte, decimal and hash conversions to field elements compute n mod p

Limb level (the model of lib.rs / fp.rs / u512.rs / u256.rs code paths): the three length
paths of `from_slice` (pad + strict `new`; Montgomery multiplication by R² which reduces;
512-bit long division), `interpret`, `from_hash`, `to_slice`, `set_bit`, `random` compute,
observed through the canonical value, exactly `n mod p` (resp. `(h mod (r−1)) + 1`); the
bitwise long division returns the true remainder and quotient and its debug self-check
holds.  Value level (`Api.*`, what the public functions return) states the same facts
directly; the limb-level functions are re-translated from the source on every run and proved equal to the model
(`Gen/LimbEquiv.lean`), and both levels are compared with the code by the correspondence check over every length 0..=70.  `from_str`: the value-level function *is* the decimal fold reduced mod p (`from_str_digits`), it rejects as
soon as a non-digit occurs, and the limb-level loop of fp.rs (table of the Montgomery forms of 0..10, `res*10 + digit` in
Montgomery arithmetic) refines it and stays canonical (`from_str_limb_refines_fr/fq`; the loop itself is re-translated
from the source on every run, `Gen/LimbEquiv.lean: Fp_from_str_equiv`, `LibFr_from_str_refines`).
-/
namespace Sm9.C13

/-- 512-bit long division: remainder, quotient rule (`None` unless the quotient is below the
    modulus), and the `debug_assert!` on the reconstruction holds -/
theorem divrem_spec (n m : Nat) (hm0 : 0 < m) (hm : m < W256) (hn : n < W512) :
    (U512.divrem n m).1.2 = n % m ∧
    (U512.divrem n m).1.1 = (if n / m < m ∧ n / m < W256 then some (n / m) else none) ∧
    (U512.divrem n m).2 = true := U512.divrem_spec n m hm0 hm hn
/-- 32-byte path: Montgomery multiplication by R² reduces any 256-bit value -/
theorem from_slice_32_reduces {P : MontParams} (hP : P.Ok) (x : Nat) (hx : x < W256) :
    Fp.new_mul_factor P x < P.modulus ∧ Fp.into_u256 P (Fp.new_mul_factor P x) = x % P.modulus :=
  Fp.new_mul_factor_reduces hP x hx
/-- 33..=64-byte path and `interpret`: the 512-bit remainder -/
theorem interpret_spec {P : MontParams} (hP : P.Ok) (bs : List UInt8) (h : bs.length = 64) :
    ∃ y, Fp.interpret P bs = .ok y ∧ y < P.modulus ∧ Fp.into_u256 P y = beVal bs % P.modulus :=
  Fp.interpret_spec hP bs h
/-- strict 32-byte decoder (1..=31-byte path after padding; point coordinates) -/
theorem from_slice_strict_spec {P : MontParams} (hP : P.Ok) (bs : List UInt8) :
    Fp.from_slice P bs = (if bs.length = 32 ∧ beVal bs < P.modulus then some (beVal bs * W256 % P.modulus) else none) :=
  Fp.from_slice_strict_spec hP bs
/-- `to_slice` is the 32-byte big-endian canonical value, below the modulus; decoding it gives x back -/
theorem to_slice_value {P : MontParams} (hP : P.Ok) (x : Nat) (hx : x < P.modulus) :
    (Fp.to_slice P x).length = 32 ∧ beVal (Fp.to_slice P x) = Fp.into_u256 P x ∧ beVal (Fp.to_slice P x) < P.modulus :=
  Fp.to_slice_value hP x hx
theorem from_to_slice {P : MontParams} (hP : P.Ok) (x : Nat) (hx : x < P.modulus) :
    Fp.from_slice P (Fp.to_slice P x) = some x := Fp.from_slice_to_slice hP x hx
/-- `Fr::from_hash(h) = (int(h) mod (r−1)) + 1` for up to 64 bytes, `None` beyond -/
theorem from_hash_spec (ha : List UInt8) (h : ha.length ≤ 64) :
    ∃ y, FrL.from_hash ha = .ok (some y) ∧ y < Consts.FR ∧
      Fp.into_u256 paramsR y = beVal ha % (Consts.FR - 1) + 1 := FrL.from_hash_spec ha h
theorem from_hash_too_long_limb (ha : List UInt8) (h : ha.length > 64) : FrL.from_hash ha = .ok none :=
  FrL.from_hash_too_long ha h
/-- `set_bit(i, v)` sets bit i of the canonical value and reduces (every i; i ≥ 256 is the identity) -/
theorem set_bit_spec {P : MontParams} (hP : P.Ok) (x i : Nat) (v : Bool) (hx : x < P.modulus) :
    Fp.into_u256 P (Fp.set_bit P x i v) = (U256.set_bit (Fp.into_u256 P x) i v).1 % P.modulus ∧
    Fp.set_bit P x i v < P.modulus := Fp.set_bit_spec hP x i v hx
theorem random_spec {P : MontParams} (hP : P.Ok) (draw : List Nat) :
    Fp.random P draw = Limb.value B64 (draw.take 8) % P.modulus ∧ Fp.random P draw < P.modulus :=
  Fp.random_spec hP draw
theorem be_roundtrip (len n : Nat) (h : n < 256 ^ len) : beVal (beBytes len n) = n := beVal_beBytes len n h

theorem fr_from_slice_spec (bs : List UInt8) :
    Api.frFromSlice bs = if 1 ≤ bs.length ∧ bs.length ≤ 64 then some (Fr.ofNat (beVal bs)) else none := rfl
theorem fr_from_slice_value (bs : List UInt8) (x : Fr) (h : Api.frFromSlice bs = some x) :
    x.val = beVal bs % r := by
  unfold Api.frFromSlice at h
  split at h
  · cases h; rfl
  · cases h
theorem fq_from_slice_value (bs : List UInt8) (x : Fq) (h : Api.fqFromSlice bs = some x) :
    x.val = beVal bs % q := by
  unfold Api.fqFromSlice at h
  split at h
  · cases h; rfl
  · cases h
theorem from_slice_lengths (bs : List UInt8) :
    (Api.frFromSlice bs).isSome = (decide (1 ≤ bs.length ∧ bs.length ≤ 64)) := by
  unfold Api.frFromSlice; split <;> simp_all
theorem from_hash_range (ha : List UInt8) (x : Fr) (h : Api.frFromHash ha = some x) :
    1 ≤ x.val ∧ x.val ≤ r - 1 ∧ x.val = beVal ha % (r - 1) + 1 := by
  unfold Api.frFromHash at h
  split at h
  · cases h
  · cases h
    have hr : 1 < r - 1 := by decide +kernel
    have hlt : beVal ha % (r - 1) < r - 1 := Nat.mod_lt _ (by omega)
    have hv : (Fr.ofNat (beVal ha % (r - 1) + 1)).val = beVal ha % (r - 1) + 1 := by
      show (beVal ha % (r - 1) + 1) % r = _
      apply Nat.mod_eq_of_lt; omega
    rw [hv]; omega
theorem from_hash_too_long (ha : List UInt8) (h : ha.length > 64) : Api.frFromHash ha = none := by
  unfold Api.frFromHash; simp [h]
theorem to_big_endian_wrong_size (a : Fq) (n : Nat) (h : n ≠ 32) : Api.fqToBigEndian a n = none := by
  unfold Api.fqToBigEndian; simp [h]
theorem from_str_rejects (s : List Char) (h : s.all Char.isDigit = false) : Api.frFromStr s = none := by
  unfold Api.frFromStr; simp [h]
theorem from_str_digits (s : List Char) (h : s.all Char.isDigit = true) :
    Api.frFromStr s = some (Fr.ofNat (s.foldl (fun acc c => acc * 10 + (c.toNat - 48)) 0)) := by
  unfold Api.frFromStr; simp [h]
theorem fq_from_str_digits (s : List Char) (h : s.all Char.isDigit = true) :
    Api.fqFromStr s = some (Fq.ofNat (s.foldl (fun acc c => acc * 10 + (c.toNat - 48)) 0)) := by
  unfold Api.fqFromStr; simp [h]
/-- the limb-level loop (Montgomery table of 0..10, `res·10 + digit`) denotes exactly that and stays below the modulus -/
theorem from_str_limb_refines_fr (s : List Char) :
    (Fp.from_str paramsR s).map Fr.ofMont = Api.frFromStr s ∧ ∀ y, Fp.from_str paramsR s = some y → y < Consts.FR :=
  (Fp.from_str_rep paramsR_ok s).map_ofMont
theorem from_str_limb_refines_fq (s : List Char) :
    (Fp.from_str paramsQ s).map Fq.ofMont = Api.fqFromStr s ∧ ∀ y, Fp.from_str paramsQ s = some y → y < Consts.FQ :=
  (Fp.from_str_rep paramsQ_ok s).map_ofMont
example : Api.frFromStr ['1', '2', '3', '4'] = some (Fr.ofNat 1234) := by decide +kernel
theorem set_bit_out_of_range (a : Fr) (i : Nat) (v : Bool) (h : i ≥ 256) : Api.frSetBit a i v = a := by
  unfold Api.frSetBit U256.set_bit
  simp only [h, if_true]
  apply Fin.ext
  show a.val % r = a.val
  exact Nat.mod_eq_of_lt a.isLt

end Sm9.C13
