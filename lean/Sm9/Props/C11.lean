import Sm9.Proofs.SpecField
import Sm9.Proofs.FinalExp
import Sm9.Proofs.Codec
/-!
# C11 — Gt is a commutative group of order r and pow is exponentiation
The laws hold on **all** of Fq12 (the model's Karatsuba product and CH-SQR2 squaring),
hence on every pairing value; every output of a final exponentiation has order dividing r
(`gt_order`), so exponents reduce modulo r on Gt; `inverse` is the field inverse.
`g == h` (structural equality of canonical coefficients) holds exactly when the 384-byte
encodings are equal (`to_slice_inj`), and every 32-byte limb of an encoding is below q.
-/
namespace Sm9.C11

theorem mul_comm_law (g h : Fq12) : g * h = h * g := mul_comm g h
theorem mul_assoc_law (g h k : Fq12) : g * h * k = g * (h * k) := mul_assoc g h k
theorem mul_one_law (g : Fq12) : g * 1 = g := mul_one g
theorem squared_eq_mul (g : Fq12) : g.squared = g * g := Fq12.squared_eq_mul g
/-- `Gt::pow` (generic square-and-multiply with the scalar out of Montgomery form) is g^a -/
theorem gtPow_eq (g : Fq12) (a : Fr) : Api.gtPow g a = g ^ a.val := Fq12.pow_eq g a.val
theorem pow_add_law (g : Fq12) (a b : Fr) : Api.gtPow g a * Api.gtPow g b = g ^ (a.val + b.val) := by
  rw [gtPow_eq, gtPow_eq, pow_add]
theorem pow_pow_law (g : Fq12) (a b : Fr) : Api.gtPow (Api.gtPow g a) b = g ^ (a.val * b.val) := by
  rw [gtPow_eq, gtPow_eq, pow_mul]
theorem mul_pow_law (g h : Fq12) (a : Fr) : Api.gtPow (g * h) a = Api.gtPow g a * Api.gtPow h a := by
  rw [gtPow_eq, gtPow_eq, gtPow_eq, mul_pow]
theorem pow_zero_law (g : Fq12) : Api.gtPow g 0 = 1 := by
  rw [gtPow_eq, show (0 : Fr).val = 0 from Fr.zero_val, pow_zero]
theorem pow_one_law (g : Fq12) : Api.gtPow g 1 = g := by
  rw [gtPow_eq, show (1 : Fr).val = 1 from Fr.one_val, pow_one]
theorem pow_add_mod (g : Fq12) (hg : g ^ r = 1) (a b : Fr) :
    Api.gtPow g a * Api.gtPow g b = Api.gtPow g (a + b) := by
  rw [pow_add_law, gtPow_eq]
  exact pow_eq_pow_mod _ hg
theorem gt_order (f g : Fq12) (h : f.final_exp = .ok (some g)) : g ^ r = 1 ∧ g ^ (r - 1) * g = 1 :=
  Sm9.gt_order f g h
theorem gt_pow_add (f g : Fq12) (h : f.final_exp = .ok (some g)) (a b : Fr) :
    Api.gtPow g a * Api.gtPow g b = Api.gtPow g (a + b) := pow_add_mod g (Sm9.gt_order f g h).1 a b
theorem pow_mul_mod (g : Fq12) (hg : g ^ r = 1) (a b : Fr) :
    Api.gtPow (Api.gtPow g a) b = Api.gtPow g (a * b) := by
  rw [pow_pow_law, gtPow_eq]
  exact pow_eq_pow_mod _ hg
theorem gt_pow_mul (f g : Fq12) (h : f.final_exp = .ok (some g)) (a b : Fr) :
    Api.gtPow (Api.gtPow g a) b = Api.gtPow g (a * b) := pow_mul_mod g (Sm9.gt_order f g h).1 a b
/-- Gt is closed under the product and `Gt::pow` -/
theorem order_closed (g h : Fq12) (hg : g ^ r = 1) (hh : h ^ r = 1) (a : Fr) :
    (g * h) ^ r = 1 ∧ (Api.gtPow g a) ^ r = 1 := by
  refine ⟨by rw [mul_pow, hg, hh, one_mul], ?_⟩
  rw [gtPow_eq, ← pow_mul, mul_comm, pow_mul, hg, one_pow]
/-- `Gt::inverse`: `Some` of the multiplicative inverse for every non-zero element -/
theorem inverse_correct (g : Fq12) (hg : g ≠ 0) : ∃ i, g.inverse = some i ∧ i * g = 1 := Fq12.inverse_correct g hg

/-- the 384-byte encoding is injective: `==` holds exactly when the encodings are equal -/
theorem to_slice_inj (g h : Fq12) (e : Api.fq12ToSlice g = Api.fq12ToSlice h) : g = h := Api.fq12ToSlice_inj e
theorem eq_iff_to_slice_eq (g h : Fq12) : g = h ↔ Api.fq12ToSlice g = Api.fq12ToSlice h :=
  ⟨fun e => by rw [e], to_slice_inj g h⟩
/-- every 32-byte limb of an encoding is a canonical value below q -/
theorem limb_lt_q (x : Fq) : beVal (Api.fqToSlice x) < q := (Api.beVal_fqToSlice x).symm ▸ x.isLt

/-! ## the product against the independent implementation

`Sm9.Spec.F12` (Sm9/Spec/Spec.lean, the oracle of the correspondence run) is a schoolbook implementation of
`F_q[w]/(w¹²+2)` on arrays of twelve naturals, written without reference to the tower.  `toF12` flattens a tower element into
its coordinate vector in the basis `1, w, …, w¹¹`; the oracle's product, power and unit are the model's (Proofs/SpecField.lean). -/
theorem product_is_independent_product (g h : Fq12) :
    Spec.F12.mul (Sm9.SpecField.toF12 g) (Sm9.SpecField.toF12 h) = Sm9.SpecField.toF12 (g * h) := Sm9.SpecField.toF12_mul g h
theorem power_is_independent_power (g : Fq12) (e : Nat) :
    Spec.F12.pow (Sm9.SpecField.toF12 g) e = Sm9.SpecField.toF12 (g ^ e) := Sm9.SpecField.toF12_pow g e
theorem one_is_independent_one : Spec.F12.one = Sm9.SpecField.toF12 (1 : Fq12) := Sm9.SpecField.toF12_one
theorem flattening_injective : Function.Injective Sm9.SpecField.toF12 := Sm9.SpecField.toF12_injective

end Sm9.C11
