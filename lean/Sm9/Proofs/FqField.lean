import Sm9.Proofs.PrattCert
import Mathlib.Algebra.Field.ZMod
import Mathlib.FieldTheory.Finite.Basic
import Mathlib.Data.ZMod.Defs
import Mathlib.Tactic.Ring
import Mathlib.Tactic.FieldSimp
import Mathlib.Algebra.Field.IsField
/-!
# `Fq` and `Fr` are fields — on the model's own operations

`Fin.instCommRing` puts the ring structure on core `Fin.add`/`Fin.mul`, which *are* the
model's `+`/`*`, so `ring` works on model terms.  Inverses come from Fermat
(`ZMod.pow_card_sub_one_eq_one`, same carrier definitionally) and the proved primality.
-/
namespace Sm9

instance instCommRingFq : CommRing Fq := Fin.instCommRing q
instance instCommRingFr : CommRing Fr := Fin.instCommRing r

theorem Fq.fermat (a : Fq) (h : a ≠ 0) : a ^ (q - 1) = 1 := by
  have := ZMod.pow_card_sub_one_eq_one (p := q) (a := a) h
  exact this

theorem Fr.fermat (a : Fr) (h : a ≠ 0) : a ^ (r - 1) = 1 := by
  have := ZMod.pow_card_sub_one_eq_one (p := r) (a := a) h
  exact this

theorem isField_of_left_inverse {R : Type} [CommRing R] (h01 : (0 : R) ≠ 1)
    (h : ∀ a : R, a ≠ 0 → ∃ y, y * a = 1) : IsField R :=
  ⟨⟨0, 1, h01⟩, mul_comm, fun ha => (h _ ha).imp fun _ hy => (mul_comm _ _).trans hy⟩

/-- Euler's criterion: `g` is no `n`-th power when `g ^ (N / n) ≠ 1` and the units have exponent `N` -/
theorem not_pow_of_pow_div_ne_one {K : Type} [Field K] {N n : ℕ} (hK : ∀ x : K, x ≠ 0 → x ^ N = 1)
    (hn : n * (N / n) = N) (hn0 : n ≠ 0) {g : K} (hg0 : g ≠ 0) (hg : g ^ (N / n) ≠ 1) (s : K) : s ^ n ≠ g := by
  intro h
  have hs : s ≠ 0 := by rintro rfl; exact hg0 (by rw [← h, zero_pow hn0])
  exact hg (by rw [← h, ← pow_mul, hn, hK s hs])

theorem Fq.pow_sub_two_mul (a : Fq) (ha : a ≠ 0) : a ^ (q - 2) * a = 1 := by
  rw [← pow_succ, show q - 2 + 1 = q - 1 by decide +kernel]; exact Fq.fermat a ha
theorem Fr.pow_sub_two_mul (a : Fr) (ha : a ≠ 0) : a ^ (r - 2) * a = 1 := by
  rw [← pow_succ, show r - 2 + 1 = r - 1 by decide +kernel]; exact Fr.fermat a ha

theorem Fq.isField : IsField Fq :=
  isField_of_left_inverse (by decide +kernel) fun a ha => ⟨_, Fq.pow_sub_two_mul a ha⟩

theorem Fr.isField : IsField Fr :=
  isField_of_left_inverse (by decide +kernel) fun a ha => ⟨_, Fr.pow_sub_two_mul a ha⟩

noncomputable instance : Field Fq := Fq.isField.toField
/-- on the model's own `*` and `0`, which instance search does not identify with those of `Field Fq` -/
instance : NoZeroDivisors Fq := ⟨fun h => mul_eq_zero.1 h⟩
noncomputable instance : Field Fr := Fr.isField.toField

example (a b c : Fq) : a * (b + c) = a * b + a * c := by ring
example (a : Fq) : a.double = 2 * a := by simp only [Fq.double]; ring
example (a b : Fq) (hb : b ≠ 0) : a / b * b = a := by field_simp

theorem Fq.zero_val : Fin.val (0 : Fq) = 0 := by decide +kernel
theorem Fq.one_val : Fin.val (1 : Fq) = 1 := by decide +kernel
theorem Fr.zero_val : Fin.val (0 : Fr) = 0 := by decide +kernel
theorem Fr.one_val : Fin.val (1 : Fr) = 1 := by decide +kernel
theorem Fq.two_ne_zero : (2 : Fq) ≠ 0 := by decide +kernel
theorem Fq.one_ne_neg_one : (1 : Fq) ≠ -1 := by decide +kernel

theorem Fq.is_zero_iff (x : Fq) : x.is_zero = true ↔ x = 0 := by
  unfold Fq.is_zero Fq.val
  rw [beq_iff_eq]
  constructor
  · intro h; apply Fin.ext; rw [h, Fq.zero_val]
  · intro h; rw [h, Fq.zero_val]
theorem Fq.is_one_iff (x : Fq) : x.is_one = true ↔ x = 1 :=
  beq_iff_eq.trans ⟨fun h => Fin.ext (h.trans Fq.one_val.symm), fun h => h ▸ Fq.one_val⟩
theorem Fr.is_zero_iff (x : Fr) : x.is_zero = true ↔ x = 0 := by
  unfold Fr.is_zero Fr.val
  rw [beq_iff_eq]
  constructor
  · intro h; apply Fin.ext; rw [h, Fr.zero_val]
  · intro h; rw [h, Fr.zero_val]
end Sm9
