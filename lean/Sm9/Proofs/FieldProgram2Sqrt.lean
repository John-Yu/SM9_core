import Sm9.Proofs.FieldProgram2
import Sm9.Proofs.Sqrt
/-!
`Fq2Prog.sqrtL` is `Fq2::sqrt` of fq2.rs written on pairs of stored Montgomery representatives:
`Fq2.sqrt` of `Sm9/Model/Tower.lean` line by line, every Fq operation replaced by the limb-model
function (`Fp.is_zero`, `FqL.sqrt`, `Fp.neg/div2/squared/double/add/sub/mul paramsQ`, `Fp.inverse paramsQ`),
the final check `sqrt_cand.squared == x` done with the limb-level complex squaring and equality of raw limbs.
-/

namespace Sm9

namespace FqProg

theorem CanonRel.div2 {a : Nat} {x : Fq} (ha : CanonRel a x) : CanonRel (Fp.div2 paramsQ a) x.div2 :=
  have h := Fp.Rep.div2_add_self paramsQ_ok ha
  ⟨h.1, (Fq.div2_eq_of_add_self x _ h.2).symm⟩

end FqProg

namespace Fq2Prog

open FqProg (CanonRel)

open Fq2 (realV z1oV checkV complexV sqrtV_eq)

def realL (a : Nat) : Option (Nat × Nat) :=
  match FqL.sqrt a with
  | some z0 => some (z0, Fp.zero)
  | none => (FqL.sqrt (Fp.div2 paramsQ (Fp.neg paramsQ a))).map (fun z1 => (Fp.zero, z1))

def yoL (a w : Nat) : Option Nat :=
  match FqL.sqrt (Fp.div2 paramsQ (Fp.add paramsQ a w)) with
  | some t => some t
  | none => FqL.sqrt (Fp.div2 paramsQ (Fp.sub paramsQ a w))

/-- outer `none`: `Fq::inverse` ran out of fuel -/
def z1oL (b w y : Nat) : Option (Option Nat) :=
  if Fp.is_zero y then some (FqL.sqrt (Fp.div2 paramsQ w))
  else (Fp.inverse paramsQ (Fp.double paramsQ y)).map (fun o => o.map (fun t => Fp.mul paramsQ b t))

/-- `Fq2::squared` (complex squaring) on limbs -/
def squaredL (a : Nat × Nat) : Nat × Nat :=
  (Fp.add paramsQ (Fp.mul paramsQ (Fp.add paramsQ a.1 a.2) (Fp.sub paramsQ a.1 (Fp.double paramsQ a.2)))
      (Fp.mul paramsQ a.1 a.2),
   Fp.double paramsQ (Fp.mul paramsQ a.1 a.2))

/-- `if sqrt_cand.squared() == *self { Some(sqrt_cand) } else { None }`: derived `==` on raw limbs -/
def checkL (x : Nat × Nat) (y z1 : Nat) : Option (Nat × Nat) :=
  if squaredL (y, z1) = x then some (y, z1) else none

def stage3L (x : Nat × Nat) (y : Nat) : Option (Option Nat) → Option (Option (Nat × Nat))
  | none => none
  | some none => some none
  | some (some z1) => some (checkL x y z1)

def stage2L (x : Nat × Nat) (w : Nat) : Option Nat → Option (Option (Nat × Nat))
  | none => some none
  | some y => stage3L x y (z1oL x.2 w y)

def stage1L (x : Nat × Nat) : Option Nat → Option (Option (Nat × Nat))
  | none => some none
  | some w => stage2L x w (yoL x.1 w)

def complexL (x : Nat × Nat) : Option (Option (Nat × Nat)) :=
  stage1L x (FqL.sqrt (Fp.add paramsQ (Fp.squared paramsQ x.1) (Fp.double paramsQ (Fp.squared paramsQ x.2))))

/-- `Fq2::sqrt` on pairs of stored Montgomery representatives.  Outer `none`: a callee (`Fq::inverse`)
    ran out of fuel; inner option: the `Option<Fq2>` the function returns. -/
def sqrtL (x : Nat × Nat) : Option (Option (Nat × Nat)) :=
  if isZeroObs2 x then some (some (Fp.zero, Fp.zero))
  else if Fp.is_zero x.2 then some (realL x.1)
  else complexL x

section
-- the unifier would otherwise unfold `Fp.add` and its like down to limb arithmetic before `squaredL`, `complexL`
seal Fp.add Fp.sub Fp.mul Fp.neg Fp.double Fp.squared Fp.div2 Fp.inverse FqL.sqrt Fp.is_zero

/-- the limb computation did not run out of fuel (outer `some`) and its `Option` result matches the value-level `v` -/
def Res2 (r : Option (Option (Nat × Nat))) (v : Option Fq2) : Prop :=
  ∃ res, r = some res ∧ OptRel CanonRel2 res v

theorem realL_rel {a : Nat} {x : Fq} (ha : CanonRel a x) : OptRel CanonRel2 (realL a) (realV x) := by
  unfold realL realV
  refine ha.sqrt.cases ?_ fun _ _ h0 => ⟨h0, FqProg.canonRel_zero⟩
  exact ha.neg.div2.sqrt.cases .none_none fun _ _ h1 => ⟨FqProg.canonRel_zero, h1⟩

theorem yoL_rel {a w : Nat} {x w' : Fq} (ha : CanonRel a x) (hw : CanonRel w w') :
    OptRel CanonRel (yoL a w) (Fq2.sqrtY x w') := by
  unfold yoL Fq2.sqrtY
  exact (ha.add hw).div2.sqrt.cases (ha.sub hw).div2.sqrt fun _ _ h => h

theorem z1oL_rel {b w y : Nat} {b' w' y' : Fq} (hb : CanonRel b b') (hw : CanonRel w w') (hy : CanonRel y y') :
    ∃ o, z1oL b w y = some o ∧ OptRel CanonRel o (z1oV b' w' y') := by
  unfold z1oL z1oV
  rw [hy.is_zero]
  split
  · exact ⟨_, rfl, hw.div2.sqrt⟩
  · obtain ⟨o, ho, hr⟩ := hy.double.inverse
    rw [ho]
    exact ⟨_, rfl, hr.cases .none_none fun _ _ h => hb.mul h⟩

theorem squaredL_rel {a : Nat × Nat} {a' : Fq2} (h : CanonRel2 a a') : CanonRel2 (squaredL a) a'.squared :=
  ⟨((h.1.add h.2).mul (h.1.sub h.2.double)).add (h.1.mul h.2), (h.1.mul h.2).double⟩

theorem checkL_rel {x : Nat × Nat} {a : Fq2} {y z : Nat} {y' z' : Fq} (hx : CanonRel2 x a)
    (hy : CanonRel y y') (hz : CanonRel z z') : OptRel CanonRel2 (checkL x y z) (checkV a y' z') := by
  unfold checkL checkV
  have hc : CanonRel2 (y, z) (Fq2.new y' z') := ⟨hy, hz⟩
  have hs := observe_eq (squaredL_rel hc) hx
  generalize squaredL (y, z) = s at hs
  by_cases h : (Fq2.new y' z').squared = a
  · rw [if_pos h, if_pos (hs.mpr h)]; exact hc
  · rw [if_neg h, if_neg (fun e => h (hs.mp e))]; exact .none_none

theorem stage3L_rel {x : Nat × Nat} {a : Fq2} {y : Nat} {y' : Fq} (hx : CanonRel2 x a) (hy : CanonRel y y')
    {oz : Option (Option Nat)} {vz : Option Fq} (hz : ∃ o, oz = some o ∧ OptRel CanonRel o vz) :
    Res2 (stage3L x y oz) (vz.bind fun z1 => checkV a y' z1) := by
  obtain ⟨o, rfl, hr⟩ := hz
  exact hr.cases ⟨none, rfl, .none_none⟩ fun _ _ h => ⟨_, rfl, checkL_rel hx hy h⟩

theorem stage2L_rel {x : Nat × Nat} {a : Fq2} {w : Nat} {w' : Fq} (hx : CanonRel2 x a) (hw : CanonRel w w')
    {oy : Option Nat} {vy : Option Fq} (hy : OptRel CanonRel oy vy) :
    Res2 (stage2L x w oy) (vy.bind fun y => (z1oV a.c1 w' y).bind fun z1 => checkV a y z1) :=
  hy.cases ⟨none, rfl, .none_none⟩ fun _ _ h => stage3L_rel hx h (z1oL_rel hx.2 hw h)

theorem stage1L_rel {x : Nat × Nat} {a : Fq2} (hx : CanonRel2 x a)
    {ow : Option Nat} {vw : Option Fq} (hw : OptRel CanonRel ow vw) :
    Res2 (stage1L x ow) (vw.bind fun w => (Fq2.sqrtY a.c0 w).bind fun y =>
      (z1oV a.c1 w y).bind fun z1 => checkV a y z1) :=
  hw.cases ⟨none, rfl, .none_none⟩ fun _ _ h => stage2L_rel hx h (yoL_rel hx.1 h)

theorem complexL_rel {x : Nat × Nat} {a : Fq2} (hx : CanonRel2 x a) : Res2 (complexL x) (complexV a) :=
  stage1L_rel hx (hx.1.squared.add hx.2.squared.double).sqrt

/-- **`Fq2::sqrt` on limbs refines the value-level `Fq2.sqrt`**: on a canonical pair it never runs out
    of fuel, returns `None` exactly when the value-level function does, and otherwise a canonical pair
    denoting the value-level root -/
theorem sqrtL_refines {x : Nat × Nat} {a : Fq2} (hx : CanonRel2 x a) :
    ∃ res, sqrtL x = some res ∧ OptRel CanonRel2 res a.sqrt := by
  rw [sqrtV_eq]
  unfold sqrtL
  have h0 := observe_is_zero hx
  have h1 := hx.2.is_zero
  generalize isZeroObs2 x = b0 at h0
  generalize Fp.is_zero x.2 = b1 at h1
  subst h0 h1
  have ht : (true = true) := rfl
  have hf : ¬ (false = true) := Bool.false_ne_true
  cases a.is_zero with
  | true =>
    rw [if_pos ht, if_pos ht]
    exact ⟨_, rfl, canonRel2_zero⟩
  | false =>
    rw [if_neg hf, if_neg hf]
    cases a.c1.is_zero with
    | true =>
      rw [if_pos ht, if_pos ht]
      exact ⟨_, rfl, realL_rel hx.1⟩
    | false =>
      rw [if_neg hf, if_neg hf]
      exact complexL_rel hx

end

theorem sqrtL_total {x : Nat × Nat} {a : Fq2} (hx : CanonRel2 x a) : ∃ res, sqrtL x = some res :=
  let ⟨res, e, _⟩ := sqrtL_refines hx; ⟨res, e⟩

theorem sqrtL_none_iff {x : Nat × Nat} {a : Fq2} (hx : CanonRel2 x a) : sqrtL x = some none ↔ a.sqrt = none := by
  obtain ⟨res, e, hr⟩ := sqrtL_refines hx
  rw [e, Option.some.injEq]
  exact hr.none_iff

theorem sqrtL_some {x y : Nat × Nat} {a : Fq2} (hx : CanonRel2 x a) (h : sqrtL x = some (some y)) :
    ∃ b, a.sqrt = some b ∧ CanonRel2 y b := by
  obtain ⟨res, e, hr⟩ := sqrtL_refines hx
  rw [e, Option.some.injEq] at h
  exact hr.of_some_left h

/-- LIMB level: `opsL` plus `sqrt`; an API result `None` leaves zero (as for the Fq machine) -/
def opsLs : FOps (Nat × Nat) :=
  { opsL with sqrt := fun x => (sqrtL x).map (fun r => r.getD (Fp.zero, Fp.zero)) }

def opsVs : FOps Fq2 :=
  { opsV with sqrt := fun a => some (a.sqrt.getD Fq2.zero) }

def frunLs : List FInstr → Option (List (Nat × Nat)) := frun opsLs
def frunVs : List FInstr → Option (List Fq2) := frun opsVs

theorem sqrt_rel {x : Nat × Nat} {a : Fq2} (hx : CanonRel2 x a) :
    OptRel CanonRel2 ((sqrtL x).map (fun r => r.getD (Fp.zero, Fp.zero))) (some (a.sqrt.getD Fq2.zero)) := by
  obtain ⟨res, e, hr⟩ := sqrtL_refines hx
  rw [e]
  exact hr.getD canonRel2_zero

theorem opsSim_s : OpsSim CanonRel2 opsLs opsVs := { opsSim with sqrt := sqrt_rel }

/-- **every program over the Fq2 operations including `sqrt`**: if the value-level machine runs, the
    limb-level machine runs too (no `sum_of_products`, `inverse` runs out of fuel), and limb register k
    is, in both coordinates, the canonical Montgomery representative of value register k -/
theorem frun_refines_s (prog : List FInstr) (ds : List Fq2) (h : frunVs prog = some ds) :
    ∃ regs, frunLs prog = some regs ∧ List.Forall₂ CanonRel2 regs ds :=
  (frun_sim opsSim_s prog).of_some h

theorem frun_fails_iff_s (prog : List FInstr) : frunLs prog = none ↔ frunVs prog = none :=
  (frun_sim opsSim_s prog).none_iff

theorem frun_canonical_s (prog : List FInstr) (regs : List (Nat × Nat)) (h : frunLs prog = some regs) :
    ∀ x ∈ regs, x.1 < paramsQ.modulus ∧ x.2 < paramsQ.modulus :=
  opsSim_s.left_inv (fun _ _ hr => ⟨hr.1.1, hr.2.1⟩) h

/-- √4 (imaginary part zero, a square in Fq) -/
def demoSqrtReal : List FInstr := [.slice (bytes2 0 4), .sqrt 0]
/-- √((3 + 5u)²): the general branch (norm, two Fq square roots, an inverse, the final check) -/
def demoSqrt : List FInstr := [.slice (bytes2 5 3), .mul 0 0, .sqrt 1]
/-- √u: not a square, the API returns `None`, the register is zero -/
def demoSqrtNone : List FInstr := [.slice (bytes2 1 0), .sqrt 0]

example : frunVs demoSqrtReal = some [Fq2.new (Fq.ofNat 4) 0, Fq2.new (Fq.ofNat 2) 0] := by decide +kernel

theorem demoSqrt_runs : frunVs demoSqrt = some [Fq2.new (Fq.ofNat 3) (Fq.ofNat 5),
    Fq2.new (Fq.ofNat (q - 41)) (Fq.ofNat 30), Fq2.new (Fq.ofNat 3) (Fq.ofNat 5)] := by decide +kernel

example : frunVs demoSqrtNone = some [Fq2.new 0 1, Fq2.zero] ∧ (Fq2.new 0 1).sqrt = none := by decide +kernel

/-- the limb machine's registers, taken out of Montgomery form, are the value machine's: the refinement
    theorem read at this program -/
example : (frunLs demoSqrt).map (List.map fun x => (Fp.into_u256 paramsQ x.1, Fp.into_u256 paramsQ x.2))
    = some [(3, 5), (q - 41, 30), (3, 5)] := by
  obtain ⟨regs, h, hr⟩ := frun_refines_s demoSqrt _ demoSqrt_runs
  rw [h, Option.map_some, forall₂_map_eq (fun _ _ h => canonRel2_into h) hr]
  decide +kernel

example : ∃ regs, frunLs demoSqrt = some regs ∧ regs.length = 3 ∧
    ∀ x ∈ regs, x.1 < paramsQ.modulus ∧ x.2 < paramsQ.modulus := by
  obtain ⟨regs, h, hr⟩ := frun_refines_s demoSqrt _ demoSqrt_runs
  exact ⟨regs, h, by simpa using hr.length_eq, frun_canonical_s demoSqrt regs h⟩

end Fq2Prog

end Sm9
