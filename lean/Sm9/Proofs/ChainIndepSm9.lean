import Sm9.Proofs.ChainIndep
import Sm9.Proofs.MillerNaf
/-!
The statement of `ChainIndep.lean` transported to `Fq12`.  `ev : Fq2[E′] →+* Fq12`, `X ↦ xP·w²`, `Y ↦ yP·w³`, evaluates
at the point `ψ⁻¹(P)` of the twist over `Fq12`; it sends a line to `w³` times the textbook line value and a vertical to
`xP·w² − x`.  The final exponentiation kills what the two products of lines differ by: `Fq2ˣ`, `w³`, and the verticals,
which are non-zero (the twist has no point with `x = 0`: `b2 = 5u` is a non-square) and fixed by `σ = (·)^(q⁶)`.
-/
namespace Sm9
namespace Miller
open WeierstrassCurve Polynomial

local notation "E" => ((q ^ 12 - 1) / r)

theorem b1_w6 : Fq12.ofFq b1 * Fq12.w ^ 6 = Fq12.ofFq2 b2 := by decide +kernel
theorem binChainOK_loop : binChainOK Consts.SM9_LOOP_N loopIdx r = true := by decide +kernel
theorem nafChainOK_loop : nafChainOK Consts.SM9_LOOP_COUNT r = true := by decide +kernel
theorem w_ne_zero : Fq12.w ≠ 0 := Fq12.w_ne_zero

section generic
variable {F : Type} [Field F] [DecidableEq F] {K K' : Type} [MulOneClass K] [MulOneClass K']
variable (W : Affine F) (ℓ : F → F → F → K) (f : K →* K')

theorem lineVal_hom (A B : W.Point) :
    lineVal W (fun x y l => f (ℓ x y l)) A B = f (lineVal W ℓ A B) :=
  lineVal_rel (fun a b => b = f a) (map_one f).symm (fun _ _ _ => rfl) A B

theorem specLoop_hom (Q : W.Point) (N : Nat) (idx : List Nat) :
    specLoop W (fun x y l => f (ℓ x y l)) Q N idx
      = ((specLoop W ℓ Q N idx).1, f (specLoop W ℓ Q N idx).2) :=
  Prod.ext_iff.2 (specLoop_rel (AddMonoidHom.id _) (fun a b => b = f a) (map_one f).symm
    (by rintro _ _ _ _ rfl rfl; exact (map_mul f _ _).symm) (lineVal_hom W ℓ f) Q N idx)

end generic

noncomputable def evX (xP : Fq) : Fq12 := Fq12.ofFq xP * Fq12.w ^ 2
noncomputable def evY (yP : Fq) : Fq12 := Fq12.ofFq yP * Fq12.w ^ 3

theorem ev_root (xP yP : Fq) (hP : yP * yP = xP * xP * xP + b1) :
    eval₂ (eval₂RingHom Fq12.ofFq2 (evX xP)) (evY yP) (Jac.Wb b2).polynomial = 0 := by
  unfold Affine.polynomial Jac.Wb
  simp only [eval₂_add, eval₂_sub, eval₂_pow, eval₂_X, eval₂_C, coe_eval₂RingHom, map_zero,
    zero_mul, add_zero]
  have h : Fq12.ofFq yP * Fq12.ofFq yP
      = Fq12.ofFq xP * Fq12.ofFq xP * Fq12.ofFq xP + Fq12.ofFq b1 := by
    rw [← map_mul, ← map_mul, ← map_mul, ← map_add]
    exact congrArg Fq12.ofFq hP
  unfold evX evY
  linear_combination (Fq12.w ^ 6) * h + b1_w6

noncomputable def ev (xP yP : Fq) (hP : yP * yP = xP * xP * xP + b1) :
    (Jac.Wb b2).CoordinateRing →+* Fq12 :=
  AdjoinRoot.lift (eval₂RingHom Fq12.ofFq2 (evX xP)) (evY yP) (ev_root xP yP hP)

theorem w3_lineSpec (xT yT lam : Fq2) (xP yP : Fq) :
    Fq12.w ^ 3 * lineSpec xT yT lam xP yP
      = evY yP - Fq12.ofFq2 lam * evX xP - Fq12.ofFq2 (yT - lam * xT) := by
  rw [lineSpec_eq_w]
  unfold evX evY
  have hw := w_ne_zero
  simp only [map_sub, map_mul]
  field_simp
  ring

theorem ev_lineR (xP yP : Fq) (hP : yP * yP = xP * xP * xP + b1) (x y lam : Fq2) :
    ev xP yP hP (lineR (Jac.Wb b2) x y lam) = Fq12.w ^ 3 * lineAt xP yP x y lam := by
  unfold lineR Affine.CoordinateRing.YClass Affine.linePolynomial ev
  rw [AdjoinRoot.lift_mk]
  simp only [eval₂_add, eval₂_sub, eval₂_mul, eval₂_X, eval₂_C, coe_eval₂RingHom]
  rw [lineAt, w3_lineSpec]
  simp only [map_sub, map_mul]
  ring

theorem ev_XClass (xP yP : Fq) (hP : yP * yP = xP * xP * xP + b1) (x : Fq2) :
    ev xP yP hP (Affine.CoordinateRing.XClass (Jac.Wb b2) x) = evX xP - Fq12.ofFq2 x := by
  unfold Affine.CoordinateRing.XClass ev
  rw [AdjoinRoot.lift_mk]
  simp only [eval₂_sub, eval₂_X, eval₂_C, coe_eval₂RingHom]

theorem ev_algebraMap (xP yP : Fq) (hP : yP * yP = xP * xP * xP + b1) (c : Fq2) :
    ev xP yP hP (algebraMap Fq2 (Jac.Wb b2).CoordinateRing c) = Fq12.ofFq2 c := by
  unfold ev
  rw [AdjoinRoot.algebraMap_eq', RingHom.comp_apply, AdjoinRoot.lift_of, Polynomial.algebraMap_apply,
    Algebra.algebraMap_self_apply, coe_eval₂RingHom, eval₂_C]

theorem sigma_vert (xP : Fq) (x : Fq2) : sigma (evX xP - Fq12.ofFq2 x) = evX xP - Fq12.ofFq2 x := by
  rw [evX, map_sub, map_mul, map_pow, sigma_ofFq, sigma_ofFq2, sigma_w, neg_sq]

theorem vert_pow_final (xP : Fq) (x : Fq2) (hz : evX xP - Fq12.ofFq2 x ≠ 0) :
    (evX xP - Fq12.ofFq2 x) ^ E = 1 :=
  pow_final_of_sigma_fixed _ hz (sigma_vert xP x)

theorem vert_ne_zero (xP : Fq) (x : Fq2) (hx : x ≠ 0) : evX xP - Fq12.ofFq2 x ≠ 0 := by
  intro h
  apply hx
  have h' := congrArg (fun z : Fq12 => z.c0.c0) h
  unfold evX at h'
  rw [Fq12.w_pow2] at h'
  simpa [Fq12.ofFq2_apply, Fq12.ofFq_apply] using h'

theorem multX_ne_zero (Q : (Jac.Wb b2).Point) (n : Nat) : ∀ x ∈ multX (Jac.Wb b2) Q n, x ≠ 0 := by
  rintro x ⟨y, h, _⟩
  exact twist_x_ne_zero h

theorem vertProd_pow_final (xP yP : Fq) (hP : yP * yP = xP * xP * xP + b1) (S : Set Fq2)
    (hS : ∀ x ∈ S, x ≠ 0) (V : (Jac.Wb b2).CoordinateRing) (hV : VertProd (Jac.Wb b2) S V) :
    ev xP yP hP V ^ E = 1 := by
  induction hV with
  | one => rw [map_one, one_pow]
  | mul _ hx ih =>
    rw [map_mul, mul_pow, ih, one_mul, ev_XClass]
    exact vert_pow_final xP _ (vert_ne_zero xP _ (hS _ hx))

/-- `a` of the coordinate ring, evaluated at `ψ⁻¹(P)`, and `b` have the same reduced value; `1`, `·` and the lines
    respect it (`redEv_line`: the factor `w³` dies), hence so do the loops -/
def RedEv (xP yP : Fq) (hP : yP * yP = xP * xP * xP + b1) (a : (Jac.Wb b2).CoordinateRing) (b : Fq12) : Prop :=
  ev xP yP hP a ^ E = b ^ E

section redEv
variable (xP yP : Fq) (hP : yP * yP = xP * xP * xP + b1)

theorem redEv_one : RedEv xP yP hP 1 1 := by
  unfold RedEv
  rw [map_one]

variable {xP yP hP} in
theorem RedEv.mul {a c : (Jac.Wb b2).CoordinateRing} {b d : Fq12} (h1 : RedEv xP yP hP a b)
    (h2 : RedEv xP yP hP c d) : RedEv xP yP hP (a * c) (b * d) := by
  unfold RedEv at *
  rw [map_mul, mul_pow, mul_pow, h1, h2]

theorem redEv_line (x y l : Fq2) : RedEv xP yP hP (lineR (Jac.Wb b2) x y l) (lineAt xP yP x y l) := by
  unfold RedEv
  rw [ev_lineR, mul_pow, w3_pow_final, one_mul]

theorem line_reduced :
    (fun x y l => powMonoidHom E ((ev xP yP hP : _ →* Fq12) (lineR (Jac.Wb b2) x y l)))
      = (fun x y l => powMonoidHom E (lineAt xP yP x y l)) :=
  funext fun x => funext fun y => funext fun l => redEv_line xP yP hP x y l

-- below, the relation and the line functions are passed explicitly: left to unification at the concrete curve
-- they cost seconds
theorem lineVal_ev_reduced (A B : (Jac.Wb b2).Point) :
    ev xP yP hP (lineVal (Jac.Wb b2) (lineR (Jac.Wb b2)) A B) ^ E
      = lineVal (Jac.Wb b2) (lineAt xP yP) A B ^ E :=
  lineVal_rel (ℓ := lineR (Jac.Wb b2)) (ℓ' := lineAt xP yP) (RedEv xP yP hP) (redEv_one xP yP hP)
    (redEv_line xP yP hP) A B

theorem specLoop_ev_reduced (Q : (Jac.Wb b2).Point) (N : Nat) (idx : List Nat) :
    ev xP yP hP (specLoop (Jac.Wb b2) (lineR (Jac.Wb b2)) Q N idx).2 ^ E
      = (specLoop (Jac.Wb b2) (lineAt xP yP) Q N idx).2 ^ E :=
  (specLoop_rel (ℓ := lineR (Jac.Wb b2)) (ℓ' := lineAt xP yP) (AddMonoidHom.id _) (RedEv xP yP hP)
    (redEv_one xP yP hP) RedEv.mul (lineVal_ev_reduced xP yP hP) Q N idx).2

theorem specLoopNaf_ev_reduced (Q : (Jac.Wb b2).Point) (ds : List Nat) :
    ev xP yP hP (specLoopNaf (Jac.Wb b2) (lineR (Jac.Wb b2)) Q ds).2 ^ E
      = (specLoopNaf (Jac.Wb b2) (lineAt xP yP) Q ds).2 ^ E :=
  (specLoopNaf_rel (ℓ := lineR (Jac.Wb b2)) (ℓ' := lineAt xP yP) (AddMonoidHom.id _) (RedEv xP yP hP)
    (redEv_one xP yP hP) RedEv.mul (lineVal_ev_reduced xP yP hP) Q ds).2

theorem specM_ev_reduced (Q : (Jac.Wb b2).Point) :
    ev xP yP hP (specM (lineR (Jac.Wb b2)) Q) ^ E = specM (lineAt xP yP) Q ^ E :=
  specM_rel (ℓ := lineR (Jac.Wb b2)) (ℓ' := lineAt xP yP) (AddMonoidHom.id _) (RedEv xP yP hP)
    (fun _ => rfl) (redEv_one xP yP hP) RedEv.mul (lineVal_ev_reduced xP yP hP) Q

end redEv

theorem loops_reduced_eq (xP yP : Fq) (hP : yP * yP = xP * xP * xP + b1) (Q : (Jac.Wb b2).Point)
    (hr : r • Q = 0) (h0 : Q ≠ 0) :
    (specLoop (Jac.Wb b2) (lineAt xP yP) Q Consts.SM9_LOOP_N loopIdx).2 ^ E
      = (specLoopNaf (Jac.Wb b2) (lineAt xP yP) Q Consts.SM9_LOOP_COUNT).2 ^ E := by
  obtain ⟨c, V1, V2, hc, hV1, hV2, h⟩ := chain_indep_coordinateRing (Jac.Wb b2) Q r
    (fun k hk hlt => nsmul_ne_zero_of_lt hr h0 hk hlt) Consts.SM9_LOOP_N loopIdx Consts.SM9_LOOP_COUNT
    binChainOK_loop nafChainOK_loop (chainVal_loop.trans chainValNaf_loop.symm)
  have h' := congrArg (fun z => ev xP yP hP z ^ E) h
  simp only [map_mul, mul_pow] at h'
  rw [vertProd_pow_final xP yP hP _ (multX_ne_zero Q r) V1 hV1,
    vertProd_pow_final xP yP hP _ (multX_ne_zero Q r) V2 hV2, ev_algebraMap, ofFq2_pow_final c hc,
    mul_one, mul_one, one_mul, specLoop_ev_reduced, specLoopNaf_ev_reduced] at h'
  exact h'

/-- chain independence: `specMNaf` walks the signed-digit chain of `G2::miller_loop`, `specM` the binary chain of
    `G2Prepared::from` -/
theorem specMNaf_reduced_eq_specM_reduced (xP yP : Fq) (hP : yP * yP = xP * xP * xP + b1)
    (Q : (Jac.Wb b2).Point) (hr : r • Q = 0) (h0 : Q ≠ 0) :
    specMNaf (lineAt xP yP) Q ^ E = specM (lineAt xP yP) Q ^ E := by
  have hl := loops_reduced_eq xP yP hP Q hr h0
  have p1 := specLoop_point (Jac.Wb b2) (lineAt xP yP) Q
  have p2 := specLoopNaf_point (Jac.Wb b2) (lineAt xP yP) Q
  unfold specMNaf specM specTail
  simp only [p1, p2, mul_pow]
  rw [hl]

theorem specMillerNaf_reduced_eq_specMiller_reduced (xP yP : Fq) (hP : yP * yP = xP * xP * xP + b1)
    (xQ yQ : Fq2) (hQ : yQ * yQ = xQ * xQ * xQ + b2) (k : ℕ) (hk : twPt (xQ, yQ) = k • twPt genXY) :
    specMillerNaf xP yP xQ yQ ^ ((q ^ 12 - 1) / r) = specMiller xP yP xQ yQ ^ ((q ^ 12 - 1) / r) := by
  rw [specMillerNaf_eq_specMNaf _ _ _ _ hQ, specMiller_eq_specM _ _ _ _ hQ]
  exact specMNaf_reduced_eq_specM_reduced xP yP hP _ (inG2_of_multiple k (twPt_gen ▸ hk)).1 (twPt_ne_zero (xQ, yQ) hQ)

/-- for multiples of `P2`, although chain independence itself needs only `r • Q = 0`: that each entry point IS the Miller
    function of its chain needs `π(Q) = [q]Q` as well, for the two Frobenius lines (`InG2.tail`) -/
theorem api_pairing_eq_fast_pairing (P : G1) (Q : G2) (hPv : G1.Valid P) (hQv : G2.Valid Q)
    (k : ℕ) (hk : G2.toAff Q = k • G2.toAff (G.one : G2)) : Api.pairing P Q = Api.fast_pairing P Q := by
  by_cases hPz : P.z = 0
  · rw [pairing_left_identity P Q hPz, fast_pairing_left_identity P Q hPz]
  by_cases hQz : Q.z = 0
  · rw [pairing_right_identity P Q hQz, fast_pairing_right_identity P Q hQz]
  rw [api_pairing_eq_fast_pairing_iff P Q hPz hPv hQz hQv k hk]
  obtain ⟨he, hpt⟩ := twPt_of_valid Q hQz hQv
  exact specMillerNaf_reduced_eq_specMiller_reduced _ _ (Jac.affine_equation hPv hPz) _ _ he k
    (twPt_gen ▸ hpt.trans hk)

end Miller
end Sm9
