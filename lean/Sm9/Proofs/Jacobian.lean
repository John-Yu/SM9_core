import Sm9.Model.Groups
import Sm9.Proofs.Pow
import Mathlib.AlgebraicGeometry.EllipticCurve.Affine.Point
import Mathlib.Tactic.FieldSimp
import Mathlib.Tactic.LinearCombination
/-!
# The Jacobian arithmetic of `groups.rs` refines the Weierstrass group law of Mathlib

Generic in the field `F`.  The model functions are instantiated at the `FieldElement`
structure induced by the field (`feOfField`); `JacobianInst.lean` and `JacobianInst2.lean` show the model's
own instances for `Fq`, `Fq2` are equal to it.

`toAff b P` is total: the identity when `z = 0`, else the affine point `(x/z², y/z³)`
(or the identity if that is not a nonsingular point — validity is a hypothesis of the
theorems, not a subtype).
-/
namespace Sm9.Jac
open WeierstrassCurve

variable {F : Type} [Field F]

/-- y² = x³ + b -/
def Wb (b : F) : Affine F := ⟨0, 0, 0, 0, b⟩

/-- Mathlib's group of points of `y² = x³ + b`, and "`(x, y)` is a point of it"; over a generic field, so that over `Fq`
    the ring structure is the one derived from `Field Fq`, as in `G1.Valid`/`G1.toAff` -/
abbrev _root_.Sm9.Jac.Pt {F : Type} [Field F] (b : F) : Type := (Jac.Wb b).Point
abbrev _root_.Sm9.SpecGroup.EPt {F : Type} [Field F] (b : F) : Type := (Jac.Wb b).Point
abbrev _root_.Sm9.SpecGroup.ENS {F : Type} [Field F] (b x y : F) : Prop := (Jac.Wb b).Nonsingular x y

theorem nonsingular_iff (b x y : F) :
    (Wb b).Nonsingular x y ↔ y ^ 2 = x ^ 3 + b ∧ (3 * x ^ 2 ≠ 0 ∨ y ≠ -y) := by
  rw [Affine.nonsingular_iff, Affine.equation_iff]
  simp only [Wb, zero_mul, mul_zero, add_zero, sub_zero]
  have : (0 ≠ 3 * x ^ 2) ↔ (3 * x ^ 2 ≠ 0) := ne_comm
  rw [this]

theorem ns_equation {b x y : F} (h : (Wb b).Nonsingular x y) : y * y = x * x * x + b := by
  linear_combination ((nonsingular_iff b x y).1 h).1

/-- no point of the curve has y = 0 when −b is not a cube (no 2-torsion) -/
theorem y_ne_zero_of_equation {b : F} (hno2 : ∀ x : F, x ^ 3 + b ≠ 0) {x y : F} (h : y * y = x * x * x + b) :
    y ≠ 0 := by
  rintro rfl
  exact hno2 x (by linear_combination -h)

theorem y_ne_zero (b : F) (hno2 : ∀ x : F, x ^ 3 + b ≠ 0) (P : G F)
    (hn : (Wb b).Nonsingular (P.x / P.z ^ 2) (P.y / P.z ^ 3)) : P.y ≠ 0 :=
  fun hy => y_ne_zero_of_equation hno2 (ns_equation hn) (by rw [hy, zero_div])

def Valid (b : F) (P : G F) : Prop := P.z = 0 ∨ (Wb b).Nonsingular (P.x / P.z ^ 2) (P.y / P.z ^ 3)

theorem affine_equation {b : F} {P : G F} (hP : Valid b P) (hz : P.z ≠ 0) :
    (P.y / P.z ^ 3) * (P.y / P.z ^ 3) = (P.x / P.z ^ 2) * (P.x / P.z ^ 2) * (P.x / P.z ^ 2) + b :=
  ns_equation (hP.resolve_left hz)

theorem valid_of_equation (b : F) (h2 : (2 : F) ≠ 0) (hno2 : ∀ x : F, x ^ 3 + b ≠ 0) (x y : F)
    (h : y * y = x * x * x + b) : Valid b ⟨x, y, 1⟩ := by
  right
  rw [nonsingular_iff]
  simp only [one_pow, div_one]
  refine ⟨by linear_combination h, Or.inr fun hy => y_ne_zero_of_equation hno2 h ?_⟩
  exact (mul_eq_zero.1 (by linear_combination hy : (2 : F) * y = 0)).resolve_left h2

theorem negY_eq (b x y : F) : (Wb b).negY x y = -y := by
  simp only [Affine.negY, Wb, zero_mul, sub_zero]

theorem addX_eq (b x1 x2 l : F) : (Wb b).addX x1 x2 l = l * l - (x1 + x2) := by
  simp only [Affine.addX, Wb]; ring

theorem addY_eq (b x1 x2 y1 l : F) : (Wb b).addY x1 x2 y1 l = l * (x1 - (l * l - (x1 + x2))) - y1 := by
  simp only [Affine.addY, Affine.negAddY, Affine.negY, Affine.addX, Wb]; ring

theorem ne_negY (b x y z : F) (h2 : (2 : F) ≠ 0) (hy : y ≠ 0) (hz : z ≠ 0) :
    y / z ^ 3 ≠ (Wb b).negY (x / z ^ 2) (y / z ^ 3) := by
  rw [negY_eq]
  intro h
  have : 2 * (y / z ^ 3) = 0 := by linear_combination h
  exact div_ne_zero hy (pow_ne_zero 3 hz) ((mul_eq_zero.1 this).resolve_left h2)

/-- chord formulas of `add` (add-1998-cmo-2 shape), as polynomials in the six coordinates -/
def chordH (x1 z1 x2 z2 : F) : F := x2 * z1 ^ 2 - x1 * z2 ^ 2
def chordR (y1 z1 y2 z2 : F) : F := y2 * z1 ^ 3 - y1 * z2 ^ 3
def chordX (x1 y1 z1 x2 y2 z2 : F) : F :=
  chordR y1 z1 y2 z2 ^ 2 - chordH x1 z1 x2 z2 ^ 3 - 2 * (x1 * z2 ^ 2 * chordH x1 z1 x2 z2 ^ 2)
def chordY (x1 y1 z1 x2 y2 z2 : F) : F :=
  chordR y1 z1 y2 z2 * (x1 * z2 ^ 2 * chordH x1 z1 x2 z2 ^ 2 - chordX x1 y1 z1 x2 y2 z2)
    - y1 * z2 ^ 3 * chordH x1 z1 x2 z2 ^ 3
def chordZ (x1 z1 x2 z2 : F) : F := z1 * z2 * chordH x1 z1 x2 z2

theorem chordH_eq_zero_iff {x1 z1 x2 z2 : F} (hz1 : z1 ≠ 0) (hz2 : z2 ≠ 0) :
    chordH x1 z1 x2 z2 = 0 ↔ x1 / z1 ^ 2 = x2 / z2 ^ 2 := by
  rw [div_eq_div_iff (pow_ne_zero 2 hz1) (pow_ne_zero 2 hz2), chordH, sub_eq_zero, eq_comm]

theorem chordR_eq_zero_iff {y1 z1 y2 z2 : F} (hz1 : z1 ≠ 0) (hz2 : z2 ≠ 0) :
    chordR y1 z1 y2 z2 = 0 ↔ y1 / z1 ^ 3 = y2 / z2 ^ 3 := by
  rw [div_eq_div_iff (pow_ne_zero 3 hz1) (pow_ne_zero 3 hz2), chordR, sub_eq_zero, eq_comm]

theorem chord_affine (b a1 c1 a2 c2 z1 z2 : F) (hz1 : z1 ≠ 0) (hz2 : z2 ≠ 0) (ha : a1 - a2 ≠ 0) :
    chordX (a1 * z1 ^ 2) (c1 * z1 ^ 3) z1 (a2 * z2 ^ 2) (c2 * z2 ^ 3) z2
        / chordZ (a1 * z1 ^ 2) z1 (a2 * z2 ^ 2) z2 ^ 2
      = (Wb b).addX a1 a2 ((c1 - c2) / (a1 - a2)) ∧
    chordY (a1 * z1 ^ 2) (c1 * z1 ^ 3) z1 (a2 * z2 ^ 2) (c2 * z2 ^ 3) z2
        / chordZ (a1 * z1 ^ 2) z1 (a2 * z2 ^ 2) z2 ^ 3
      = (Wb b).addY a1 a2 c1 ((c1 - c2) / (a1 - a2)) := by
  have hH : chordH (a1 * z1 ^ 2) z1 (a2 * z2 ^ 2) z2 = -(z1 ^ 2 * z2 ^ 2 * (a1 - a2)) := by
    unfold chordH; ring
  have hR : chordR (c1 * z1 ^ 3) z1 (c2 * z2 ^ 3) z2 = -(z1 ^ 3 * z2 ^ 3 * (c1 - c2)) := by
    unfold chordR; ring
  simp only [addX_eq, addY_eq, chordY, chordX, chordZ, hH, hR]
  constructor
  · field_simp
    ring
  · field_simp
    ring

/-- doubling formulas (dbl-2009-l, a = 0) as polynomials -/
def dblX (x y : F) : F := (3 * x ^ 2) ^ 2 - 2 * (4 * x * y ^ 2)
def dblY (x y : F) : F := 3 * x ^ 2 * (4 * x * y ^ 2 - dblX x y) - 8 * y ^ 4
def dblZ (y z : F) : F := 2 * (y * z)

theorem tangent_affine (b a c z : F) (h2 : (2 : F) ≠ 0) (hc : c ≠ 0) (hz : z ≠ 0) :
    dblX (a * z ^ 2) (c * z ^ 3) / dblZ (c * z ^ 3) z ^ 2 = (Wb b).addX a a (3 * a ^ 2 / (2 * c)) ∧
    dblY (a * z ^ 2) (c * z ^ 3) / dblZ (c * z ^ 3) z ^ 3 = (Wb b).addY a a c (3 * a ^ 2 / (2 * c)) := by
  simp only [addX_eq, addY_eq, dblY, dblX, dblZ]
  constructor
  · field_simp
    ring
  · field_simp
    ring

variable [DecidableEq F]

@[reducible] def feOfField (F : Type) [Field F] [DecidableEq F] : FieldElement F where
  zero := 0
  one := 1
  add := (· + ·)
  sub := (· - ·)
  mul := (· * ·)
  neg := (- ·)
  squared := fun x => x * x
  double := fun x => x + x
  triple := fun x => x + x + x
  inverse := fun x => if x = 0 then none else some x⁻¹
  is_zero := fun x => decide (x = 0)
  beq := fun a b => decide (a = b)

open Classical in
noncomputable def toAff (b : F) (P : G F) : (Wb b).Point :=
  if P.z = 0 then 0
  else if hn : (Wb b).Nonsingular (P.x / P.z ^ 2) (P.y / P.z ^ 3) then .some _ _ hn else 0

theorem toAff_zero (b : F) (P : G F) (hz : P.z = 0) : toAff b P = 0 := by simp [toAff, hz]

theorem toAff_some (b : F) (P : G F) (hz : P.z ≠ 0)
    (hn : (Wb b).Nonsingular (P.x / P.z ^ 2) (P.y / P.z ^ 3)) :
    toAff b P = .some _ _ hn := by
  simp [toAff, hz, hn]

theorem spec_of_z_eq_zero {b : F} {R : G F} (hz : R.z = 0) : Valid b R ∧ toAff b R = 0 :=
  ⟨Or.inl hz, toAff_zero b R hz⟩

theorem toAff_eq_zero_iff {b : F} {P : G F} (hP : Valid b P) : toAff b P = 0 ↔ P.z = 0 := by
  refine ⟨fun h => by_contra fun hz => ?_, toAff_zero b P⟩
  rw [toAff_some b P hz (hP.resolve_left hz)] at h
  exact Affine.Point.some_ne_zero _ h

theorem toAff_affine {b : F} {P : G F} (hP : Valid b P) (hz : P.z ≠ 0) :
    Valid b ⟨P.x / P.z ^ 2, P.y / P.z ^ 3, 1⟩ ∧ toAff b ⟨P.x / P.z ^ 2, P.y / P.z ^ 3, 1⟩ = toAff b P := by
  have hn := hP.resolve_left hz
  have hn' : (Wb b).Nonsingular ((P.x / P.z ^ 2) / (1 : F) ^ 2) ((P.y / P.z ^ 3) / (1 : F) ^ 3) := by
    simpa using hn
  refine ⟨Or.inr hn', ?_⟩
  rw [toAff_some b P hz hn, toAff_some b ⟨P.x / P.z ^ 2, P.y / P.z ^ 3, 1⟩ one_ne_zero hn']
  simp

theorem toAff_z_one (b : F) (P : G F) (hz : P.z = 1) (hv : Valid b P) :
    ∃ hn : (Wb b).Nonsingular P.x P.y, toAff b P = .some P.x P.y hn := by
  have hz0 : P.z ≠ 0 := hz ▸ one_ne_zero
  have h := hv.resolve_left hz0
  have hn : (Wb b).Nonsingular P.x P.y := by simpa only [hz, one_pow, div_one] using h
  refine ⟨hn, ?_⟩
  rw [toAff_some b P hz0 h]
  simp only [hz, one_pow, div_one]

theorem slope_eq (b x1 x2 y1 y2 : F) :
    (Wb b).slope x1 x2 y1 y2 =
      if x1 = x2 then (if y1 = -y2 then 0 else 3 * (x1 * x1) * (y1 + y1)⁻¹)
      else (y2 - y1) * (x2 - x1)⁻¹ := by
  by_cases hx : x1 = x2
  · rw [if_pos hx]
    by_cases hy : y1 = -y2
    · rw [if_pos hy, Affine.slope_of_Y_eq hx (by rw [negY_eq]; exact hy)]
    · rw [if_neg hy, Affine.slope_of_Y_ne hx (by rw [negY_eq]; exact hy), negY_eq]
      simp only [Wb, mul_zero, zero_mul, add_zero, sub_zero, sub_neg_eq_add, div_eq_mul_inv]
      ring
  · rw [if_neg hx, Affine.slope_of_X_ne hx, ← neg_sub y2 y1, ← neg_sub x2 x1, neg_div_neg_eq,
      div_eq_mul_inv]

theorem chord_spec (b x1 y1 z1 x2 y2 z2 : F) (hz1 : z1 ≠ 0) (hz2 : z2 ≠ 0)
    (hP : (Wb b).Nonsingular (x1 / z1 ^ 2) (y1 / z1 ^ 3))
    (hQ : (Wb b).Nonsingular (x2 / z2 ^ 2) (y2 / z2 ^ 3))
    (hH : chordH x1 z1 x2 z2 ≠ 0) :
    Valid b ⟨chordX x1 y1 z1 x2 y2 z2, chordY x1 y1 z1 x2 y2 z2, chordZ x1 z1 x2 z2⟩ ∧
    toAff b ⟨chordX x1 y1 z1 x2 y2 z2, chordY x1 y1 z1 x2 y2 z2, chordZ x1 z1 x2 z2⟩
      = Affine.Point.some _ _ hP + Affine.Point.some _ _ hQ := by
  have hx : x1 / z1 ^ 2 ≠ x2 / z2 ^ 2 := fun h => hH ((chordH_eq_zero_iff hz1 hz2).2 h)
  have hz3 : chordZ x1 z1 x2 z2 ≠ 0 := mul_ne_zero (mul_ne_zero hz1 hz2) hH
  have hns := (Wb b).nonsingular_add hP hQ (fun h => absurd h.1 hx)
  obtain ⟨hX, hY⟩ := chord_affine b (x1 / z1 ^ 2) (y1 / z1 ^ 3) (x2 / z2 ^ 2) (y2 / z2 ^ 3) z1 z2 hz1 hz2
    (sub_ne_zero.2 hx)
  rw [← Affine.slope_of_X_ne hx] at hX hY
  simp only [div_mul_cancel₀ _ (pow_ne_zero _ hz1), div_mul_cancel₀ _ (pow_ne_zero _ hz2)] at hX hY
  rw [← hX, ← hY] at hns
  refine ⟨Or.inr hns, ?_⟩
  rw [toAff_some b _ hz3 hns, Affine.Point.add_of_X_ne hx]
  simp only [Affine.Point.some.injEq]
  exact ⟨hX, hY⟩

theorem tangent_spec (b x y z : F) (h2 : (2 : F) ≠ 0) (hz : z ≠ 0)
    (hP : (Wb b).Nonsingular (x / z ^ 2) (y / z ^ 3)) :
    Valid b ⟨dblX x y, dblY x y, dblZ y z⟩ ∧
    toAff b ⟨dblX x y, dblY x y, dblZ y z⟩ = Affine.Point.some _ _ hP + Affine.Point.some _ _ hP := by
  by_cases hy : y = 0
  · -- 2-torsion: the tangent is vertical, z3 = 0
    have hY : y / z ^ 3 = (Wb b).negY (x / z ^ 2) (y / z ^ 3) := by
      rw [negY_eq, hy, zero_div, neg_zero]
    rw [Affine.Point.add_self_of_Y_eq hY]
    exact spec_of_z_eq_zero (by simp [dblZ, hy])
  · have hY := ne_negY b x y z h2 hy hz
    rw [Affine.Point.add_self_of_Y_ne hY]
    have hz3 : dblZ y z ≠ 0 := mul_ne_zero h2 (mul_ne_zero hy hz)
    have hns := (Wb b).nonsingular_add hP hP (fun h => hY h.2)
    have hslope : (Wb b).slope (x / z ^ 2) (x / z ^ 2) (y / z ^ 3) (y / z ^ 3)
        = (3 * (x / z ^ 2) ^ 2) / (2 * (y / z ^ 3)) := by
      rw [Affine.slope_of_Y_ne rfl hY]
      simp only [Affine.negY, Wb, zero_mul, mul_zero, add_zero, sub_zero]
      congr 1; ring
    obtain ⟨hX, hY'⟩ := tangent_affine b (x / z ^ 2) (y / z ^ 3) z h2 (div_ne_zero hy (pow_ne_zero 3 hz)) hz
    rw [← hslope] at hX hY'
    simp only [div_mul_cancel₀ _ (pow_ne_zero _ hz)] at hX hY'
    rw [← hX, ← hY'] at hns
    refine ⟨Or.inr hns, ?_⟩
    rw [toAff_some b _ hz3 hns]
    simp only [Affine.Point.some.injEq]
    exact ⟨hX, hY'⟩

@[simp] theorem fe_squared (x : F) : @FieldElement.squared F (feOfField F) x = x * x := rfl
@[simp] theorem fe_double (x : F) : @FieldElement.double F (feOfField F) x = x + x := rfl
@[simp] theorem fe_triple (x : F) : @FieldElement.triple F (feOfField F) x = x + x + x := rfl
@[simp] theorem fe_is_zero (x : F) : @FieldElement.is_zero F (feOfField F) x = decide (x = 0) := rfl
@[simp] theorem fe_beq (x y : F) : @FieldElement.beq F (feOfField F) x y = decide (x = y) := rfl
@[simp] theorem fe_inverse (x : F) :
    @FieldElement.inverse F (feOfField F) x = if x = 0 then none else some x⁻¹ := rfl
@[simp] theorem fe_add (a b : F) :
    @HAdd.hAdd F F F (@instHAdd F (@FieldElement.toAdd F (feOfField F))) a b = a + b := rfl
@[simp] theorem fe_sub (a b : F) :
    @HSub.hSub F F F (@instHSub F (@FieldElement.toSub F (feOfField F))) a b = a - b := rfl
@[simp] theorem fe_mul (a b : F) :
    @HMul.hMul F F F (@instHMul F (@FieldElement.toMul F (feOfField F))) a b = a * b := rfl
@[simp] theorem fe_neg (a : F) : @Neg.neg F (@FieldElement.toNeg F (feOfField F)) a = -a := rfl
@[simp] theorem fe_zero : @OfNat.ofNat F 0 (@Zero.toOfNat0 F (@FieldElement.toZero F (feOfField F))) = 0 := rfl
@[simp] theorem fe_one : @OfNat.ofNat F 1 (@One.toOfNat1 F (@FieldElement.toOne F (feOfField F))) = 1 := rfl

abbrev dbl (P : G F) : G F := @G.double F (feOfField F) P
abbrev add (P Q : G F) : G F := @G.add F (feOfField F) P Q
abbrev neg (P : G F) : G F := @G.neg F (feOfField F) P

theorem dbl_unfold (P : G F) : dbl P = ⟨dblX P.x P.y, dblY P.x P.y, dblZ P.y P.z⟩ := by
  unfold dbl G.double dblY dblX dblZ
  simp only [fe_squared, fe_double, fe_triple, fe_add, fe_sub, fe_mul, G.mk.injEq]
  refine ⟨?_, ?_, ?_⟩ <;> ring

theorem neg_unfold (P : G F) : neg P = if P.z = 0 then P else ⟨P.x, -P.y, P.z⟩ := by
  simp only [neg, G.neg, G.is_zero, fe_is_zero, decide_eq_true_eq, fe_neg]

theorem add_zero_left (P Q : G F) (hz : P.z = 0) : add P Q = Q := by
  simp [add, G.add, G.is_zero, hz]

theorem add_zero_right (P Q : G F) (hP : P.z ≠ 0) (hz : Q.z = 0) : add P Q = P := by
  simp [add, G.add, G.is_zero, hP, hz]

theorem neg_neg (P : G F) : neg (neg P) = P := by
  rw [neg_unfold, neg_unfold]
  by_cases hz : P.z = 0 <;> simp [hz]

theorem dbl_spec (b : F) (h2 : (2 : F) ≠ 0) (P : G F) (hP : Valid b P) :
    Valid b (dbl P) ∧ toAff b (dbl P) = toAff b P + toAff b P := by
  rw [dbl_unfold]
  by_cases hz : P.z = 0
  · rw [toAff_zero b P hz, add_zero]
    exact spec_of_z_eq_zero (by simp [dblZ, hz])
  · rw [toAff_some b P hz (hP.resolve_left hz)]
    exact tangent_spec b P.x P.y P.z h2 hz _

theorem double_correct (b : F) (h2 : (2 : F) ≠ 0) (P : G F) (hP : Valid b P) :
    toAff b (dbl P) = toAff b P + toAff b P := (dbl_spec b h2 P hP).2

theorem double_valid (b : F) (h2 : (2 : F) ≠ 0) (P : G F) (hP : Valid b P) : Valid b (dbl P) :=
  (dbl_spec b h2 P hP).1

/-- what every arm of `add` computes on operands with z ≠ 0 -/
def armOut (P Q : G F) : G F :=
  if chordR P.y P.z Q.y Q.z = 0 ∧ chordH P.x P.z Q.x Q.z = 0 then dbl P
  else ⟨chordX P.x P.y P.z Q.x Q.y Q.z, chordY P.x P.y P.z Q.x Q.y Q.z, chordZ P.x P.z Q.x Q.z⟩

theorem armOut_spec (b : F) (h2 : (2 : F) ≠ 0) (P Q : G F) (hz1 : P.z ≠ 0) (hz2 : Q.z ≠ 0)
    (hP : (Wb b).Nonsingular (P.x / P.z ^ 2) (P.y / P.z ^ 3))
    (hQ : (Wb b).Nonsingular (Q.x / Q.z ^ 2) (Q.y / Q.z ^ 3)) :
    Valid b (armOut P Q) ∧ toAff b (armOut P Q) = toAff b P + toAff b Q := by
  unfold armOut
  by_cases hH : chordH P.x P.z Q.x Q.z = 0
  · have hX := (chordH_eq_zero_iff hz1 hz2).1 hH
    by_cases hR : chordR P.y P.z Q.y Q.z = 0
    · -- same affine point: the code doubles
      have hPQ : toAff b Q = toAff b P := by
        rw [toAff_some b P hz1 hP, toAff_some b Q hz2 hQ, Affine.Point.some.injEq]
        exact ⟨hX.symm, ((chordR_eq_zero_iff hz1 hz2).1 hR).symm⟩
      rw [if_pos ⟨hR, hH⟩, hPQ]
      exact dbl_spec b h2 P (Or.inr hP)
    · -- opposite points: z3 = z1 z2 h = 0
      rw [if_neg (fun h => hR h.1), toAff_some b P hz1 hP, toAff_some b Q hz2 hQ]
      have hY : P.y / P.z ^ 3 = (Wb b).negY (Q.x / Q.z ^ 2) (Q.y / Q.z ^ 3) := by
        have e := ((nonsingular_iff b _ _).1 hP).1
        rw [hX, ← ((nonsingular_iff b _ _).1 hQ).1] at e
        rcases sq_eq_sq_iff_eq_or_eq_neg.1 e with h | h
        · exact absurd ((chordR_eq_zero_iff hz1 hz2).2 h) hR
        · rwa [negY_eq]
      rw [Affine.Point.add_of_Y_eq hX hY]
      exact spec_of_z_eq_zero (by simp [chordZ, hH])
  · rw [if_neg (fun h => hH h.2), toAff_some b P hz1 hP, toAff_some b Q hz2 hQ]
    exact chord_spec b P.x P.y P.z Q.x Q.y Q.z hz1 hz2 hP hQ hH

/-! The three arms are compared with `armOut` with `chordH`, `chordR` kept as atoms: the model's
    `h`, `r` are rewritten into them, so `ring` never sees the formulas expanded in six coordinates. -/

theorem add_tt_eq (P Q : G F) (h1 : P.z = 1) (h2 : Q.z = 1) :
    @G.add_tt F (feOfField F) P Q = armOut P Q := by
  have eH : Q.x - P.x = chordH P.x P.z Q.x Q.z := by unfold chordH; rw [h1, h2]; ring
  have eR : Q.y - P.y = chordR P.y P.z Q.y Q.z := by unfold chordR; rw [h1, h2]; ring
  unfold G.add_tt armOut
  simp only [fe_squared, fe_double, fe_is_zero, fe_sub, fe_mul, Bool.and_eq_true, decide_eq_true_eq, eH, eR]
  split
  · rfl
  · unfold chordY chordX chordZ
    generalize chordH P.x P.z Q.x Q.z = H
    generalize chordR P.y P.z Q.y Q.z = R
    rw [h1, h2, G.mk.injEq]
    refine ⟨?_, ?_, ?_⟩ <;> ring

theorem add_ft_eq (P Q : G F) (h2 : Q.z = 1) :
    @G.add_ft F (feOfField F) P Q = armOut P Q := by
  have eH : Q.x * (P.z * P.z) - P.x = chordH P.x P.z Q.x Q.z := by unfold chordH; rw [h2]; ring
  have eR : Q.y * (P.z * (P.z * P.z)) - P.y = chordR P.y P.z Q.y Q.z := by unfold chordR; rw [h2]; ring
  unfold G.add_ft armOut
  simp only [fe_squared, fe_double, fe_is_zero, fe_sub, fe_mul, Bool.and_eq_true, decide_eq_true_eq, eH, eR]
  split
  · rfl
  · unfold chordY chordX chordZ
    generalize chordH P.x P.z Q.x Q.z = H
    generalize chordR P.y P.z Q.y Q.z = R
    rw [h2, G.mk.injEq]
    refine ⟨?_, ?_, ?_⟩ <;> ring

/-- the `(false,false)` arm, outside the (unreachable) two-torsion early return -/
theorem add_ff_eq (P Q : G F)
    (hno : ¬(chordR P.y P.z Q.y Q.z = 0 ∧ P.y * (Q.z * (Q.z * Q.z)) + Q.y * (P.z * (P.z * P.z)) = 0 ∧
              chordH P.x P.z Q.x Q.z ≠ 0)) :
    @G.add_ff F (feOfField F) P Q = armOut P Q := by
  have eH : Q.x * (P.z * P.z) - P.x * (Q.z * Q.z) = chordH P.x P.z Q.x Q.z := by unfold chordH; ring
  have eR : Q.y * (P.z * (P.z * P.z)) - P.y * (Q.z * (Q.z * Q.z)) = chordR P.y P.z Q.y Q.z := by
    unfold chordR; ring
  unfold G.add_ff armOut
  simp only [fe_squared, fe_double, fe_is_zero, fe_add, fe_sub, fe_mul, Bool.and_eq_true,
    decide_eq_true_eq, eH, eR]
  split
  · rfl
  · next hne =>
    split
    · next ht => exact absurd ⟨ht.1, ht.2, fun h => hne ⟨ht.1, h⟩⟩ hno
    · unfold chordY chordX chordZ
      generalize chordH P.x P.z Q.x Q.z = H
      generalize chordR P.y P.z Q.y Q.z = R
      rw [G.mk.injEq]
      exact ⟨by ring, by ring, by ring⟩

/-- on operands other than the identity every arm of `add` computes `armOut`, the `(true, false)`
    arm (`other + self` in the source) with the operands exchanged -/
theorem add_eq_armOut (P Q : G F) (hz1 : P.z ≠ 0) (hz2 : Q.z ≠ 0) (h2 : (2 : F) ≠ 0) (hy : P.y ≠ 0) :
    add P Q = armOut P Q ∨ add P Q = armOut Q P := by
  unfold add G.add
  simp only [G.is_zero, fe_is_zero, fe_beq, fe_one, hz1, hz2, decide_false, Bool.false_eq_true, if_false]
  by_cases h1 : P.z = 1 <;> by_cases hq1 : Q.z = 1 <;> simp only [h1, hq1, decide_true, decide_false]
  · exact Or.inl (add_tt_eq P Q h1 hq1)
  · exact Or.inr (add_ft_eq Q P h1)
  · exact Or.inl (add_ft_eq P Q hq1)
  · -- the two-torsion early return of the (false, false) arm needs y1 z2³ = 0
    refine Or.inl (add_ff_eq P Q ?_)
    rintro ⟨hR, ht, _⟩
    unfold chordR at hR
    have : 2 * (P.y * Q.z ^ 3) = 0 := by linear_combination ht - hR
    exact mul_ne_zero h2 (mul_ne_zero hy (pow_ne_zero 3 hz2)) this

theorem add_spec (b : F) (h2 : (2 : F) ≠ 0) (hno2 : ∀ x : F, x ^ 3 + b ≠ 0) (P Q : G F)
    (hP : Valid b P) (hQ : Valid b Q) :
    Valid b (add P Q) ∧ toAff b (add P Q) = toAff b P + toAff b Q := by
  by_cases hz1 : P.z = 0
  · rw [add_zero_left P Q hz1, toAff_zero b P hz1, zero_add]
    exact ⟨hQ, rfl⟩
  by_cases hz2 : Q.z = 0
  · rw [add_zero_right P Q hz1 hz2, toAff_zero b Q hz2, add_zero]
    exact ⟨hP, rfl⟩
  have hnP := hP.resolve_left hz1
  have hnQ := hQ.resolve_left hz2
  rcases add_eq_armOut P Q hz1 hz2 h2 (y_ne_zero b hno2 P hnP) with e | e <;> rw [e]
  · exact armOut_spec b h2 P Q hz1 hz2 hnP hnQ
  · rw [add_comm]
    exact armOut_spec b h2 Q P hz2 hz1 hnQ hnP

theorem add_correct (b : F) (h2 : (2 : F) ≠ 0) (hno2 : ∀ x : F, x ^ 3 + b ≠ 0) (P Q : G F)
    (hP : Valid b P) (hQ : Valid b Q) : toAff b (add P Q) = toAff b P + toAff b Q :=
  (add_spec b h2 hno2 P Q hP hQ).2

theorem add_valid (b : F) (h2 : (2 : F) ≠ 0) (hno2 : ∀ x : F, x ^ 3 + b ≠ 0) (P Q : G F)
    (hP : Valid b P) (hQ : Valid b Q) : Valid b (add P Q) :=
  (add_spec b h2 hno2 P Q hP hQ).1

theorem neg_spec (b : F) (P : G F) (hP : Valid b P) :
    Valid b (neg P) ∧ toAff b (neg P) = -toAff b P := by
  rw [neg_unfold]
  by_cases hz : P.z = 0
  · rw [if_pos hz, toAff_zero b P hz, neg_zero]
    exact ⟨hP, rfl⟩
  · have hn := hP.resolve_left hz
    have hn' : (Wb b).Nonsingular (P.x / P.z ^ 2) (-P.y / P.z ^ 3) := by
      have := (Affine.nonsingular_neg (W' := Wb b) _ _).2 hn
      rwa [negY_eq, ← neg_div] at this
    rw [if_neg hz, toAff_some b P hz hn, Affine.Point.neg_some]
    refine ⟨Or.inr hn', ?_⟩
    rw [toAff_some b ⟨P.x, -P.y, P.z⟩ hz hn']
    simp only [negY_eq, neg_div]

theorem neg_correct (b : F) (P : G F) (hP : Valid b P) : toAff b (neg P) = -toAff b P :=
  (neg_spec b P hP).2

theorem neg_valid (b : F) (P : G F) (hP : Valid b P) : Valid b (neg P) := (neg_spec b P hP).1

theorem sub_correct (b : F) (h2 : (2 : F) ≠ 0) (hno2 : ∀ x : F, x ^ 3 + b ≠ 0) (P Q : G F)
    (hP : Valid b P) (hQ : Valid b Q) :
    toAff b (@G.sub F (feOfField F) P Q) = toAff b P - toAff b Q := by
  show toAff b (add P (neg Q)) = _
  rw [add_correct b h2 hno2 P (neg Q) hP (neg_valid b Q hQ), neg_correct b Q hQ, sub_eq_add_neg]

theorem mulFold_spec (b : F) (h2 : (2 : F) ≠ 0) (hno2 : ∀ x : F, x ^ 3 + b ≠ 0) (P : G F) (hP : Valid b P)
    (bits : List Bool) (acc : G F) (hacc : Valid b acc) :
    Valid b (bits.foldl (fun res i => let res := dbl res; if i then add res P else res) acc) ∧
    toAff b (bits.foldl (fun res i => let res := dbl res; if i then add res P else res) acc)
      = (2 ^ bits.length) • toAff b acc + bitsVal bits • toAff b P := by
  induction bits generalizing acc with
  | nil => simp [bitsVal, hacc]
  | cons c cs ih =>
    obtain ⟨hdv, hd⟩ := dbl_spec b h2 acc hacc
    rw [List.foldl_cons, List.length_cons, bitsVal_cons, pow_succ, mul_smul, two_smul, ← hd]
    cases c
    · simp only [Bool.false_eq_true, if_false, zero_mul, zero_add]
      exact ih (dbl acc) hdv
    · obtain ⟨hav, ha⟩ := add_spec b h2 hno2 (dbl acc) P hdv hP
      simp only [if_true, one_mul]
      rw [add_smul, ← add_assoc, ← smul_add, ← ha]
      exact ih (add (dbl acc) P) hav

theorem mul_spec (b : F) (h2 : (2 : F) ≠ 0) (hno2 : ∀ x : F, x ^ 3 + b ≠ 0) (P : G F) (hP : Valid b P)
    (k : Fr) :
    Valid b (@G.mul F (feOfField F) P k) ∧ toAff b (@G.mul F (feOfField F) P k) = k.val • toAff b P := by
  have h := mulFold_spec b h2 hno2 P hP (bitsMSB k.val) (@G.zero F (feOfField F)) (Or.inl rfl)
  rwa [toAff_zero b (@G.zero F (feOfField F)) rfl, smul_zero, zero_add, bitsVal_bitsMSB] at h

theorem mul_correct (b : F) (h2 : (2 : F) ≠ 0) (hno2 : ∀ x : F, x ^ 3 + b ≠ 0) (P : G F) (hP : Valid b P)
    (k : Fr) : toAff b (@G.mul F (feOfField F) P k) = k.val • toAff b P :=
  (mul_spec b h2 hno2 P hP k).2

theorem mul_valid (b : F) (h2 : (2 : F) ≠ 0) (hno2 : ∀ x : F, x ^ 3 + b ≠ 0) (P : G F) (hP : Valid b P)
    (k : Fr) : Valid b (@G.mul F (feOfField F) P k) :=
  (mul_spec b h2 hno2 P hP k).1

/-- `P·(−1) + P`, the subgroup test of `AffineG::new`, denotes `r • P` -/
theorem neg_one_mul_add (b : F) (h2 : (2 : F) ≠ 0) (hno2 : ∀ x : F, x ^ 3 + b ≠ 0) (P : G F)
    (hP : Valid b P) : toAff b (add (@G.mul F (feOfField F) P (-1)) P) = r • toAff b P := by
  have hr : (-(1 : Fr)).val + 1 = r := by decide +kernel
  obtain ⟨hv, he⟩ := mul_spec b h2 hno2 P hP (-1)
  rw [add_correct b h2 hno2 _ P hv hP, he, ← succ_nsmul, hr]

theorem eq_iff (b : F) (P Q : G F) (hP : Valid b P) (hQ : Valid b Q) :
    @G.eq F (feOfField F) P Q = true ↔ toAff b P = toAff b Q := by
  unfold G.eq
  simp only [G.is_zero, fe_is_zero, fe_squared, fe_mul, fe_beq, decide_eq_true_eq]
  by_cases hz1 : P.z = 0 <;> by_cases hz2 : Q.z = 0
  · simp [hz1, hz2, toAff_zero b]
  · rw [if_pos hz1, toAff_zero b P hz1, toAff_some b Q hz2 (hQ.resolve_left hz2)]
    simp [hz2]
  · rw [if_neg hz1, if_pos hz2, toAff_zero b Q hz2, toAff_some b P hz1 (hP.resolve_left hz1)]
    simp
  · rw [if_neg hz1, if_neg hz2, toAff_some b P hz1 (hP.resolve_left hz1),
      toAff_some b Q hz2 (hQ.resolve_left hz2), Affine.Point.some.injEq,
      div_eq_div_iff (pow_ne_zero 2 hz1) (pow_ne_zero 2 hz2),
      div_eq_div_iff (pow_ne_zero 3 hz1) (pow_ne_zero 3 hz2)]
    have hb : ∀ c d : Bool, (if (!c) = true then false else if (!d) = true then false else true) = (c && d) := by
      decide
    rw [hb, Bool.and_eq_true, decide_eq_true_eq, decide_eq_true_eq]
    simp only [pow_succ, pow_zero, one_mul, mul_assoc]

theorem eq_refl (P : G F) : @G.eq F (feOfField F) P P = true := by
  simp [G.eq, G.is_zero]

/-- `P` and `−P` are different unless `P` is the identity (no 2-torsion) -/
theorem eq_neg_false (b : F) (h2 : (2 : F) ≠ 0) (hno2 : ∀ x : F, x ^ 3 + b ≠ 0) (P : G F) (hP : Valid b P)
    (hz : P.z ≠ 0) : @G.eq F (feOfField F) P (neg P) = false := by
  refine Bool.eq_false_iff.2 fun h => ?_
  have hn := hP.resolve_left hz
  rw [eq_iff b P (neg P) hP (neg_valid b P hP), neg_correct b P hP, toAff_some b P hz hn, Affine.Point.neg_some] at h
  exact ne_negY b P.x P.y P.z h2 (y_ne_zero b hno2 P hn) hz (Affine.Point.some.inj h).2

theorem eq_zero_iff (P O : G F) (hO : O.z = 0) : @G.eq F (feOfField F) P O = true ↔ P.z = 0 := by
  by_cases hz : P.z = 0 <;> simp [G.eq, G.is_zero, hO, hz]

/-- the z = 1 shortcut and the inversion path of `to_affine` agree -/
theorem to_affine_spec (P : G F) :
    @G.to_affine F (feOfField F) P =
      if P.z = 0 then none else some ⟨P.x / P.z ^ 2, P.y / P.z ^ 3⟩ := by
  unfold G.to_affine
  simp only [fe_is_zero, fe_beq, fe_one, fe_inverse, fe_squared, fe_mul]
  by_cases hz : P.z = 0
  · simp [hz]
  · simp only [hz, decide_false, Bool.false_eq_true, if_false]
    by_cases h1 : P.z = 1
    · simp [h1]
    · simp only [h1, decide_false, Bool.false_eq_true, if_false]
      congr 2
      · field_simp
      · field_simp

theorem to_affine_eq_none_iff (P : G F) : @G.to_affine F (feOfField F) P = none ↔ P.z = 0 := by
  rw [to_affine_spec]
  by_cases hz : P.z = 0 <;> simp [hz]

theorem to_affine_of_z_one (x y : F) : @G.to_affine F (feOfField F) ⟨x, y, 1⟩ = some ⟨x, y⟩ := by
  rw [to_affine_spec, if_neg one_ne_zero]
  simp only [one_pow, div_one]

theorem to_affine_congr (b : F) (P Q : G F) (hP : Valid b P) (hQ : Valid b Q) (h : toAff b P = toAff b Q) :
    @G.to_affine F (feOfField F) P = @G.to_affine F (feOfField F) Q := by
  rw [to_affine_spec, to_affine_spec]
  by_cases hz1 : P.z = 0
  · rw [if_pos hz1, if_pos ((toAff_eq_zero_iff hQ).1 (h ▸ toAff_zero b P hz1))]
  · have hz2 : Q.z ≠ 0 := fun hz2 => hz1 ((toAff_eq_zero_iff hP).1 (h.trans (toAff_zero b Q hz2)))
    rw [toAff_some b P hz1 (hP.resolve_left hz1), toAff_some b Q hz2 (hQ.resolve_left hz2)] at h
    rw [if_neg hz1, if_neg hz2, (Affine.Point.some.inj h).1, (Affine.Point.some.inj h).2]

theorem normalize_spec (b : F) (P : G F) (hP : Valid b P) :
    let N := match @G.to_affine F (feOfField F) P with
      | some a => @AffineG.to_jacobian F (feOfField F) a
      | none => P
    toAff b N = toAff b P ∧ (P.z ≠ 0 → N.z = 1) ∧ (P.z = 0 → N = P) ∧ Valid b N := by
  rw [to_affine_spec]
  by_cases hz : P.z = 0
  · simp [hz, hP]
  · obtain ⟨hv, ht⟩ := toAff_affine hP hz
    rw [if_neg hz]
    exact ⟨ht, fun _ => rfl, fun h => absurd h hz, hv⟩

end Sm9.Jac
