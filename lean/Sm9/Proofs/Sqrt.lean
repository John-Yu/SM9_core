import Sm9.Proofs.TowerField
/-!
# Soundness and completeness of `Fq::sqrt` and `Fq2::sqrt`

`q = 8k+5`.  All facts about quadratic residues that are needed are derived from the
algorithm itself plus Fermat (`Fq.fermat`) and closed kernel evaluations (`2^((q-1)/2) = -1`,
`1 ≠ -1`, and `(-2)^((q-1)/2) = -1` behind `Fq.neg_two_not_sq`); Mathlib's theory of quadratic residues is not used.
-/
namespace Sm9

/-- `k` with `q = 8k+5` -/
def sqrtK : Nat := (q - 5) / 8

theorem q_eq_sqrtK : q = 8 * sqrtK + 5 := by decide +kernel
theorem minus1_div4_sqrtK : Fq.minus1_div4 = 2 * sqrtK + 1 := by rw [minus1_div4_eq]; decide +kernel
theorem minus5_div8_sqrtK : Fq.minus5_div8 = sqrtK := minus5_div8_eq
theorem half_eq_sqrtK : (q - 1) / 2 = 4 * sqrtK + 2 := by decide +kernel

namespace Fq

/-- 2 is a quadratic non-residue, as `q ≡ 5 mod 8` -/
theorem two_pow_half : ((1 : Fq) + 1) ^ (4 * sqrtK + 2) = -1 := by
  rw [← Fq.pow_eq]; decide +kernel
theorem one_add_one_ne_zero : ((1 : Fq) + 1) ≠ 0 := (one_add_one_eq_two (R := Fq)).symm ▸ Fq.two_ne_zero

theorem fermat_sqrtK (x : Fq) (hx : x ≠ 0) : x ^ (8 * sqrtK + 4) = 1 := by
  have h := Fq.fermat x hx
  have e : q - 1 = 8 * sqrtK + 4 := by decide +kernel
  exact e ▸ h

/-- the candidate computed by `Fq::sqrt` before the sign normalisation -/
noncomputable def sqrtRes (x : Fq) : Fq :=
  if x ^ (2 * sqrtK + 1) = 1 then x ^ sqrtK * x
  else if x ^ (2 * sqrtK + 1) = -1 then (x + x) * ((x + x) + (x + x)) ^ sqrtK
  else 0

/-- equation lemma restating `Fq::sqrt` with ring-level powers and propositional tests -/
theorem sqrt_eq (x : Fq) :
    x.sqrt = if x = 0 then some 0 else
      if sqrtRes x = 0 then none
      else some (if (-(sqrtRes x)).val < (sqrtRes x).val then -(sqrtRes x) else sqrtRes x) := by
  have hres : (if (x.pow minus1_div4).is_one = true then x.pow minus5_div8 * x
      else if (-(x.pow minus1_div4)).is_one = true then
        x.double * (x.double.double.pow minus5_div8) else 0) = sqrtRes x := by
    unfold sqrtRes
    simp only [Fq.pow_eq, minus1_div4_sqrtK, minus5_div8_sqrtK, is_one_iff, Fq.double_def,
      neg_eq_iff_eq_neg]
  unfold Fq.sqrt
  simp only [hres, Fq.is_zero_iff]

theorem sqrtRes_sq (x : Fq) (h : x ^ (4 * sqrtK + 2) = 1) :
    sqrtRes x * sqrtRes x = x := by
  have hy : x ^ (2 * sqrtK + 1) * x ^ (2 * sqrtK + 1) = 1 := by rw [← h]; ring
  rcases mul_self_eq_one_iff.1 hy with h1 | h1
  · unfold sqrtRes
    rw [if_pos h1]
    calc x ^ sqrtK * x * (x ^ sqrtK * x) = x ^ (2 * sqrtK + 1) * x := by ring
      _ = x := by rw [h1, one_mul]
  · have hne : x ^ (2 * sqrtK + 1) ≠ 1 := by rw [h1]; exact fun e => one_ne_neg_one e.symm
    unfold sqrtRes
    rw [if_neg hne, if_pos h1]
    have ht := two_pow_half
    generalize hT : (1 : Fq) + 1 = t at ht
    have h2 : x + x = t * x := by rw [← hT]; ring
    rw [h2]
    calc t * x * (t * x + t * x) ^ sqrtK * (t * x * (t * x + t * x) ^ sqrtK)
        = x * t ^ (4 * sqrtK + 2) * x ^ (2 * sqrtK + 1) := by
          have : t * x + t * x = t * t * x := by rw [← hT]; ring
          rw [this]; ring
      _ = x := by rw [ht, h1]; ring

theorem sqrtRes_eq_zero (x : Fq) (h : x ^ (4 * sqrtK + 2) ≠ 1) : sqrtRes x = 0 := by
  have hsq : x ^ (2 * sqrtK + 1) * x ^ (2 * sqrtK + 1) = x ^ (4 * sqrtK + 2) := by ring
  have h1 : x ^ (2 * sqrtK + 1) ≠ 1 := by
    intro e; apply h; rw [← hsq, e, one_mul]
  have h2 : x ^ (2 * sqrtK + 1) ≠ -1 := by
    intro e; apply h; rw [← hsq, e]; ring
  unfold sqrtRes
  rw [if_neg h1, if_neg h2]

/-- Euler's criterion; the exponent is `(q - 1) / 2` (`half_eq_sqrtK`) -/
theorem pow_half_of_sq (c : Fq) (hc : c ≠ 0) : (c * c) ^ (4 * sqrtK + 2) = 1 := by
  rw [← fermat_sqrtK c hc]; ring

theorem sqrt_zero : (0 : Fq).sqrt = some 0 := by
  rw [sqrt_eq, if_pos rfl]

theorem sqrt_isSome_iff_euler (x : Fq) :
    x.sqrt.isSome = true ↔ x = 0 ∨ x ^ (4 * sqrtK + 2) = 1 := by
  rw [sqrt_eq]
  by_cases hx : x = 0
  · simp [hx]
  · rw [if_neg hx]
    by_cases h : x ^ (4 * sqrtK + 2) = 1
    · have hr : sqrtRes x ≠ 0 := by
        intro e
        have := sqrtRes_sq x h
        rw [e, mul_zero] at this
        exact hx this.symm
      rw [if_neg hr]
      simp [h]
    · rw [if_pos (sqrtRes_eq_zero x h)]
      simp [hx, h]

theorem sqrt_sound (x s : Fq) (h : x.sqrt = some s) : s * s = x := by
  have hsome : x.sqrt.isSome = true := by rw [h]; rfl
  rw [sqrt_eq] at h
  by_cases hx : x = 0
  · rw [if_pos hx, Option.some.injEq] at h
    rw [← h, hx, mul_zero]
  · rw [if_neg hx] at h
    rcases (sqrt_isSome_iff_euler x).1 hsome with h0 | he
    · exact absurd h0 hx
    · have hsq := sqrtRes_sq x he
      by_cases hr : sqrtRes x = 0
      · rw [if_pos hr] at h; exact absurd h (by simp)
      · rw [if_neg hr, Option.some.injEq] at h
        rw [← h]
        split
        · calc -sqrtRes x * -sqrtRes x = sqrtRes x * sqrtRes x := by ring
            _ = x := hsq
        · exact hsq

theorem sqrt_complete (x : Fq) (h : ∃ c, c * c = x) : x.sqrt.isSome = true := by
  obtain ⟨c, rfl⟩ := h
  rw [sqrt_isSome_iff_euler]
  by_cases hc : c = 0
  · left; rw [hc, mul_zero]
  · right; exact pow_half_of_sq c hc

theorem sqrt_isSome_iff (x : Fq) : x.sqrt.isSome = true ↔ ∃ c, c * c = x := by
  constructor
  · intro h
    obtain ⟨s, hs⟩ := Option.isSome_iff_exists.1 h
    exact ⟨s, sqrt_sound x s hs⟩
  · exact sqrt_complete x

theorem sqrt_eq_none_iff (x : Fq) : x.sqrt = none ↔ ¬ ∃ c, c * c = x := by
  rw [← sqrt_isSome_iff]
  cases x.sqrt <;> simp

theorem sqrt_smaller (x s : Fq) (h : x.sqrt = some s) : s.val ≤ (-s).val := by
  rw [sqrt_eq] at h
  by_cases hx : x = 0
  · rw [if_pos hx, Option.some.injEq] at h
    rw [← h, neg_zero]
  · rw [if_neg hx] at h
    by_cases hr : sqrtRes x = 0
    · rw [if_pos hr] at h; exact absurd h (by simp)
    · rw [if_neg hr, Option.some.injEq] at h
      rw [← h]
      split
      · next hlt => rw [_root_.neg_neg]; exact Nat.le_of_lt hlt
      · next hlt => exact Nat.le_of_not_lt hlt

end Fq

theorem Fq.div2_spec (a : Fq) : a.div2 + a.div2 = a := by
  have hq2 : q % 2 = 1 := fq_range.2.2
  have hlt : Fin.val a < q := a.isLt
  apply Fin.ext
  refine (Fin.val_add _ _).trans ?_
  show ((Fin.ofNat q _).val + (Fin.ofNat q _).val) % q = _
  simp only [Fin.val_ofNat]
  unfold Fq.val
  generalize Fin.val a = n at *
  by_cases h : n % 2 = 0
  · simp only [h, beq_self_eq_true, if_true]
    have h1 : n / 2 < q := by omega
    rw [Nat.mod_eq_of_lt h1]
    have h2 : n/2 + n/2 = n := by omega
    rw [h2, Nat.mod_eq_of_lt hlt]
  · have hb : (n % 2 == 0) = false := by simpa using h
    simp only [hb, Bool.false_eq_true, if_false]
    have h1 : (n + q) / 2 < q := by omega
    rw [Nat.mod_eq_of_lt h1]
    have h2 : (n + q)/2 + (n + q)/2 = n + q := by omega
    rw [h2, Nat.add_mod_right, Nat.mod_eq_of_lt hlt]

theorem Fq.div2_eq_of_add_self (d e : Fq) (h : e + e = d) : d.div2 = e := by
  have h1 : ((1 : Fq) + 1) * (d.div2 - e) = 0 := by
    have := Fq.div2_spec d
    calc ((1 : Fq) + 1) * (d.div2 - e) = (d.div2 + d.div2) - (e + e) := by ring
      _ = 0 := by rw [this, h, sub_self]
  rcases mul_eq_zero.1 h1 with h2 | h2
  · exact absurd h2 Fq.one_add_one_ne_zero
  · exact sub_eq_zero.1 h2

namespace Fq2

/-- imaginary part zero: √a, or √(−a/2)·u -/
def realV (a : Fq) : Option Fq2 :=
  match a.sqrt with
  | some z0 => some (Fq2.new z0 0)
  | none => ((-a).div2.sqrt).map (fun z1 => Fq2.new 0 z1)

def sqrtY (a w : Fq) : Option Fq :=
  match ((a + w).div2).sqrt with
  | some t => some t
  | none => ((a - w).div2).sqrt

def z1oV (b w y : Fq) : Option Fq :=
  if y.is_zero then w.div2.sqrt else y.double.inverse.map (fun t => b * t)

def checkV (x : Fq2) (y z1 : Fq) : Option Fq2 :=
  if (Fq2.new y z1).squared = x then some (Fq2.new y z1) else none

def complexV (x : Fq2) : Option Fq2 :=
  (x.c0.squared + x.c1.squared.double).sqrt.bind fun w =>
    (sqrtY x.c0 w).bind fun y => (z1oV x.c1 w y).bind fun z1 => checkV x y z1

theorem sqrtV_eq (x : Fq2) : x.sqrt =
    if x.is_zero then some Fq2.zero else if x.c1.is_zero then realV x.c0 else complexV x := rfl

theorem sqrt_real (x : Fq2) (hx : x ≠ 0) (hb : x.c1 = 0) : x.sqrt = realV x.c0 := by
  rw [sqrtV_eq, if_neg (mt (Fq2.is_zero_iff x).1 hx), if_pos ((Fq.is_zero_iff _).2 hb)]

theorem sqrt_general (x : Fq2) (hb : x.c1 ≠ 0) : x.sqrt = complexV x := by
  rw [sqrtV_eq, if_neg (mt (Fq2.is_zero_iff x).1 fun h => hb (h ▸ rfl)), if_neg (mt (Fq.is_zero_iff _).1 hb)]

end Fq2

theorem Fq.euler_dichotomy (x : Fq) (hx : x ≠ 0) :
    x ^ (4 * sqrtK + 2) = 1 ∨ x ^ (4 * sqrtK + 2) = -1 := by
  apply mul_self_eq_one_iff.1
  rw [← Fq.fermat_sqrtK x hx]; ring

theorem Fq.neg_two_sq_not_sq (c : Fq) (hc : c ≠ 0) : ¬ ∃ t, t * t = -(c * c + c * c) := by
  rintro ⟨t, ht⟩
  refine Fq.neg_two_not_sq (t / c) ?_
  rw [div_pow, pow_two, ht, Fq.nr_eq, div_eq_iff (pow_ne_zero 2 hc)]
  ring

/-- if `a` is a non-residue then `-a/2` is a residue -/
theorem Fq.sqrt_neg_half_isSome (a : Fq) (h : a.sqrt = none) : ((-a).div2.sqrt).isSome = true := by
  have ha : a ≠ 0 := by
    intro e; rw [e, Fq.sqrt_zero] at h; exact absurd h (by simp)
  have hns : ¬ (a = 0 ∨ a ^ (4 * sqrtK + 2) = 1) := by
    rw [← Fq.sqrt_isSome_iff_euler, h]; simp
  have hm1 : a ^ (4 * sqrtK + 2) = -1 := by
    rcases Fq.euler_dichotomy a ha with h1 | h1
    · exact absurd (Or.inr h1) hns
    · exact h1
  have hspec := Fq.div2_spec (-a)
  generalize (-a).div2 = e at hspec ⊢
  have he : e ≠ 0 := by
    intro e0; rw [e0, add_zero] at hspec
    exact ha (neg_eq_zero.1 hspec.symm)
  rw [Fq.sqrt_isSome_iff_euler]
  right
  have h2 : (e + e) ^ (4 * sqrtK + 2) = -1 := by
    rw [hspec, Even.neg_pow ⟨2 * sqrtK + 1, by ring⟩, hm1]
  have : e + e = ((1 : Fq) + 1) * e := by ring
  rw [this, mul_pow, Fq.two_pow_half] at h2
  calc e ^ (4 * sqrtK + 2) = -(-1 * e ^ (4 * sqrtK + 2)) := by ring
    _ = 1 := by rw [h2]; ring

namespace Fq2

theorem sqrt_zero : (0 : Fq2).sqrt = some 0 := by
  unfold Fq2.sqrt
  rw [if_pos ((Fq2.is_zero_iff 0).2 rfl)]
  rfl

theorem sqrt_sound (x s : Fq2) (h : x.sqrt = some s) : s * s = x := by
  by_cases hx : x = 0
  · rw [hx, sqrt_zero, Option.some.injEq] at h
    rw [← h, hx, mul_zero]
  by_cases hb : x.c1 = 0
  · rw [sqrt_real x hx hb] at h
    unfold realV at h
    cases hs : x.c0.sqrt with
    | some z0 =>
      rw [hs] at h
      simp only [Option.some.injEq] at h
      have h0 := Fq.sqrt_sound _ _ hs
      rw [← h]
      ext
      · simp [Fq2.new, h0]
      · simp [Fq2.new, hb]
    | none =>
      rw [hs] at h
      simp only [Option.map_eq_some_iff] at h
      obtain ⟨z1, hz1, h⟩ := h
      have h0 := Fq.sqrt_sound _ _ hz1
      have hd := Fq.div2_spec (-x.c0)
      rw [← h0] at hd
      rw [← h]
      ext
      · simp only [Fq2.new, Fq2.mul_c0, mul_zero, zero_add]
        calc -(z1 + z1) * z1 = -(z1 * z1 + z1 * z1) := by ring
          _ = x.c0 := by rw [hd, neg_neg]
      · simp [Fq2.new, hb]
  · rw [sqrt_general x hb] at h
    unfold complexV at h
    simp only [Option.bind_eq_some_iff] at h
    obtain ⟨w, _, y, _, z1, _, h⟩ := h
    unfold checkV at h
    split at h
    · next hc =>
      rw [Option.some.injEq] at h
      rw [← h, ← Fq2.squared_eq_mul]; exact hc
    · exact absurd h (by simp)

theorem sqrt_complete_real (a : Fq) : (Fq2.sqrt ⟨a, 0⟩).isSome = true := by
  by_cases hx : (⟨a, 0⟩ : Fq2) = 0
  · rw [hx, sqrt_zero]; rfl
  rw [sqrt_real _ hx rfl]
  unfold realV
  cases hs : a.sqrt with
  | some z0 => rfl
  | none =>
    simp only [Option.isSome_map]
    exact Fq.sqrt_neg_half_isSome a hs

theorem sqrt_complete_general (c : Fq2) (hb : (c * c).c1 ≠ 0) : ((c * c).sqrt).isSome = true := by
  obtain ⟨c0, c1⟩ := c
  have hbv : (Fq2.mk c0 c1 * Fq2.mk c0 c1).c1 = c0 * c1 + c1 * c0 := by simp
  have hav : (Fq2.mk c0 c1 * Fq2.mk c0 c1).c0 = c0 * c0 + -(c1 + c1) * c1 := by simp
  have hc0 : c0 ≠ 0 := by
    intro e; apply hb; rw [hbv, e]; ring
  have hc1 : c1 ≠ 0 := by
    intro e; apply hb; rw [hbv, e]; ring
  rw [sqrt_general _ hb]
  unfold complexV
  generalize hX : Fq2.mk c0 c1 * Fq2.mk c0 c1 = x at *
  have hn : x.c0.squared + x.c1.squared.double
      = (c0 * c0 + (c1 * c1 + c1 * c1)) * (c0 * c0 + (c1 * c1 + c1 * c1)) := by
    rw [hbv, hav]; simp only [Fq.squared_def, Fq.double_def]; ring
  obtain ⟨w, hw⟩ := Option.isSome_iff_exists.1 (Fq.sqrt_complete _ ⟨_, hn.symm⟩)
  have hww := Fq.sqrt_sound _ _ hw
  rw [hn] at hww
  rw [hw, Option.bind_some]
  -- the real part of the root, up to sign
  have hplus : (c0 * c0 + c0 * c0) = x.c0 + (c0 * c0 + (c1 * c1 + c1 * c1)) := by rw [hav]; ring
  have hminus : -(c1 * c1 + c1 * c1) + -(c1 * c1 + c1 * c1)
      = x.c0 - (c0 * c0 + (c1 * c1 + c1 * c1)) := by rw [hav]; ring
  have hsqc0 : ((c0 * c0).sqrt).isSome = true := Fq.sqrt_complete _ ⟨c0, rfl⟩
  obtain ⟨t, ht⟩ := Option.isSome_iff_exists.1 hsqc0
  have hY : sqrtY x.c0 w = some t := by
    unfold sqrtY
    rcases mul_self_eq_mul_self_iff.1 hww with e | e
    · rw [e, Fq.div2_eq_of_add_self _ _ hplus, ht]
    · rw [e, sub_neg_eq_add, Fq.div2_eq_of_add_self _ _ hplus, ← sub_eq_add_neg,
        Fq.div2_eq_of_add_self _ _ hminus, ht]
      have : (-(c1 * c1 + c1 * c1)).sqrt = none := by
        rw [Fq.sqrt_eq_none_iff]; exact Fq.neg_two_sq_not_sq c1 hc1
      rw [this]
  rw [hY, Option.bind_some]
  have htt := Fq.sqrt_sound _ _ ht
  have ht0 : t ≠ 0 := by
    intro e; rw [e, mul_zero] at htt
    exact mul_ne_zero hc0 hc0 htt.symm
  have htz : ¬ t.is_zero = true := by rw [Fq.is_zero_iff]; exact ht0
  have hd0 : t + t ≠ 0 := by
    have : t + t = ((1 : Fq) + 1) * t := by ring
    rw [this]; exact mul_ne_zero Fq.one_add_one_ne_zero ht0
  have hdz : ¬ (t + t).is_zero = true := by rw [Fq.is_zero_iff]; exact hd0
  obtain ⟨i, hi, hinv⟩ := Fq.inverse_correct (t + t) hd0
  unfold z1oV checkV
  rw [if_neg htz]
  simp only [Fq.double_def, hi, Option.map_some, Option.bind_some]
  have hcand : (Fq2.new t (x.c1 * i)).squared = x := by
    rw [Fq2.squared_eq_mul, hbv, ← hX]
    rcases mul_self_eq_mul_self_iff.1 htt with e | e
    · rw [e] at hinv ⊢
      have hz : (c0 * c1 + c1 * c0) * i = c1 := by
        calc (c0 * c1 + c1 * c0) * i = c1 * (i * (c0 + c0)) := by ring
          _ = c1 := by rw [hinv, mul_one]
      rw [hz]; rfl
    · rw [e] at hinv ⊢
      have hz : (c0 * c1 + c1 * c0) * i = -c1 := by
        calc (c0 * c1 + c1 * c0) * i = -c1 * (i * (-c0 + -c0)) := by ring
          _ = -c1 := by rw [hinv, mul_one]
      rw [hz]
      ext <;> simp only [Fq2.new, Fq2.mul_c0, Fq2.mul_c1] <;> ring
  rw [if_pos hcand]
  rfl

theorem sqrt_complete (x : Fq2) (h : ∃ c, c * c = x) : x.sqrt.isSome = true := by
  obtain ⟨c, rfl⟩ := h
  by_cases hb : (c * c).c1 = 0
  · have : c * c = ⟨(c * c).c0, 0⟩ := by ext <;> simp [hb]
    rw [this]; exact sqrt_complete_real _
  · exact sqrt_complete_general c hb

theorem sqrt_isSome_iff (x : Fq2) : x.sqrt.isSome = true ↔ ∃ c, c * c = x := by
  constructor
  · intro h
    obtain ⟨s, hs⟩ := Option.isSome_iff_exists.1 h
    exact ⟨s, sqrt_sound x s hs⟩
  · exact sqrt_complete x

theorem sqrt_eq_none_iff (x : Fq2) : x.sqrt = none ↔ ¬ ∃ c, c * c = x := by
  rw [← sqrt_isSome_iff]
  cases x.sqrt <;> simp

end Fq2

example : (Fq.ofNat 4).sqrt = some (Fq.ofNat 2) := by decide +kernel
theorem Fq.sqrt_two : (Fq.ofNat 2).sqrt = none := by decide +kernel
example : (Fq.ofNat 2).sqrt = none := Fq.sqrt_two
example : ∃ x : Fq, x.sqrt = none := ⟨Fq.ofNat 2, Fq.sqrt_two⟩
/-- imaginary-part-zero branch, non-residue real part: the root is purely imaginary -/
example : ((Fq2.sqrt ⟨Fq.ofNat 2, 0⟩).map (·.c0)) = some 0 := by decide +kernel
/-- general branch succeeds on a square and fails on a non-square -/
example : (Fq2.sqrt (Fq2.new (Fq.ofNat 3) (Fq.ofNat 5) * Fq2.new (Fq.ofNat 3) (Fq.ofNat 5))).isSome = true := by
  decide +kernel
example : Fq2.sqrt Fq2.i = none := by decide +kernel

end Sm9
