import Sm9.Proofs.BilinRightAlg
import Sm9.Proofs.ChainIndepSm9
import Sm9.Proofs.MillerSymmetries
/-!
In the coordinate ring `Fq2[E′]` the Miller functions at `Q1`, `Q2`, `Q3 = Q1 + Q2` satisfy
`F1·F2·ℓ_{−π³} = c·F3·ℓ_0^a·ℓ_π·ℓ_{−π²}` up to verticals, `ℓ_s` the line through `sQ1`, `sQ2` (`BilinRightAlg.lean`, with
`aQ + πQ − π²Q = −π³Q` on the `q`-eigenspace of `π` in the `r`-torsion).  Evaluated at `ψ⁻¹(P)` and reduced, constants,
verticals and `w³` die; with `z = ℓ_0(P)^E` the lines become `ℓ_π ↦ z^q`, `ℓ_{−π²} ↦ z^(−q²)`, `ℓ_{−π³} ↦ z^(−q³)`, and
`z^r = 1`, `r ∣ a + q − q² + q³`.
-/
namespace Sm9
namespace Miller
open WeierstrassCurve

local notation "E" => ((q ^ 12 - 1) / r)

theorem curveX_ne_zero : ∀ x ∈ curveX (Jac.Wb b2), x ≠ 0 := by
  rintro x ⟨y, h⟩
  exact twist_x_ne_zero h

theorem miller_ideal {Q : (Jac.Wb b2).Point} (h0 : Q ≠ 0) (hG : InG2 Q) :
    MillerIdeal (Jac.Wb b2) Consts.SM9_LOOP_N (specM (lineR (Jac.Wb b2)) Q) Q (frobHom Q)
      (-frobHom (frobHom Q)) (-frobHom (frobHom (frobHom Q))) := by
  have hn : ∀ k, 0 < k → k < r → k • Q ≠ 0 := fun k hk hlt => nsmul_ne_zero_of_lt hG.1 h0 hk hlt
  obtain ⟨-, t2, -, -⟩ := hG.tail h0
  exact millerIdeal_of_loop (Jac.Wb b2) Q (frobHom Q) (frobHom (frobHom Q)) _ r hn (by decide +kernel)
    Consts.SM9_LOOP_N loopIdx binChainOK_loop Consts.SM9_LOOP_N chainVal_loop (frobHom_ne_zero h0)
    (frobHom_ne_zero (frobHom_ne_zero h0)) (fun h => t2 (eq_neg_of_add_eq_zero_left h))
    hG.rate_point (neg_ne_zero.mpr (frobHom_ne_zero (frobHom_ne_zero (frobHom_ne_zero h0))))

theorem specM_add (xP yP : Fq) (hP : yP * yP = xP * xP * xP + b1) (Q1 Q2 Q3 : (Jac.Wb b2).Point)
    (h1 : Q1 ≠ 0) (h2 : Q2 ≠ 0) (h3 : Q3 ≠ 0) (hG1 : InG2 Q1) (hG2 : InG2 Q2) (hadd : Q1 + Q2 = Q3) :
    specM (lineAt xP yP) Q3 ^ E = specM (lineAt xP yP) Q1 ^ E * specM (lineAt xP yP) Q2 ^ E := by
  have hyP := Jac.y_ne_zero_of_equation Fq.no_two_torsion hP
  have d1 := miller_ideal h1 hG1
  have d2 := miller_ideal h2 hG2
  have d3 := miller_ideal h3 (hadd ▸ hG1.add hG2)
  have f1 := fun {A : (Jac.Wb b2).Point} (h : A ≠ 0) => frobHom_ne_zero h
  obtain ⟨c, Va, Vb, hc, hVa, hVb, e⟩ := miller_add_coordinateRing (Jac.Wb b2) Consts.SM9_LOOP_N
    _ _ _ Q1 Q2 Q3 (frobHom Q1) (frobHom Q2) (frobHom Q3)
    (-frobHom (frobHom Q1)) (-frobHom (frobHom Q2)) (-frobHom (frobHom Q3))
    (-frobHom (frobHom (frobHom Q1))) (-frobHom (frobHom (frobHom Q2)))
    (-frobHom (frobHom (frobHom Q3))) d1 d2 d3 hadd
    (by rw [← map_add, hadd]) (by rw [← neg_add, ← map_add, ← map_add, hadd])
    (by rw [← neg_add, ← map_add, ← map_add, ← map_add, hadd])
    h1 h2 h3 (f1 h1) (f1 h2) (f1 h3)
    (neg_ne_zero.mpr (f1 (f1 h1))) (neg_ne_zero.mpr (f1 (f1 h2))) (neg_ne_zero.mpr (f1 (f1 h3)))
    (neg_ne_zero.mpr (f1 (f1 (f1 h1)))) (neg_ne_zero.mpr (f1 (f1 (f1 h2))))
    (neg_ne_zero.mpr (f1 (f1 (f1 h3))))
  have e' := congrArg (fun z => ev xP yP hP z ^ E) e
  simp only [map_mul, map_pow, mul_pow] at e'
  rw [vertProd_pow_final xP yP hP _ curveX_ne_zero Va hVa,
    vertProd_pow_final xP yP hP _ curveX_ne_zero Vb hVb, ev_algebraMap, ofFq2_pow_final c hc,
    mul_one, mul_one, one_mul, pow_right_comm _ Consts.SM9_LOOP_N, specM_ev_reduced,
    specM_ev_reduced, specM_ev_reduced, lineVal_ev_reduced, lineVal_ev_reduced, lineVal_ev_reduced,
    lineVal_ev_reduced] at e'
  -- lines through `πA, πB` are `q`-th powers, lines through `−A, −B` are `σ`-conjugates
  simp only [lineVal_frobHom, powMonoidHom_apply, lineVal_neg_neg] at e'
  have hz : lineVal (Jac.Wb b2) (lineAt xP yP) Q1 Q2 ≠ 0 :=
    lineVal_ne_zero _ _ (fun x y l => lineSpec_ne_zero x y l xP yP hyP) _ _
  generalize lineVal (Jac.Wb b2) (lineAt xP yP) Q1 Q2 = z at e' hz
  have hZr : (z ^ E) ^ r = 1 := pow_final_exponent_pow_r z hz
  have hSM := sigma_pow_final ((z ^ q) ^ q) (pow_ne_zero _ (pow_ne_zero _ hz))
  have hSN := sigma_pow_final (((z ^ q) ^ q) ^ q) (pow_ne_zero _ (pow_ne_zero _ (pow_ne_zero _ hz)))
  have p1 : (z ^ q) ^ E = (z ^ E) ^ q := pow_right_comm _ _ _
  have p2 : ((z ^ q) ^ q) ^ E = (z ^ E) ^ (q * q) := by
    rw [pow_right_comm _ q E, p1, ← pow_mul]
  have p3 : (((z ^ q) ^ q) ^ q) ^ E = (z ^ E) ^ (q * q * q) := by
    rw [pow_right_comm _ q E, p2, ← pow_mul]
  rw [p2] at hSM
  rw [p3] at hSN
  rw [p1] at e'
  exact rate_correction _ _ _ (z ^ E) _ _ hZr e' hSM hSN

end Miller
end Sm9

