import Sm9.Proofs.MillerSpec
import Sm9.Proofs.Sqrt
/-!
# The numerator/denominator line evaluations of `G2::miller_loop` are the textbook lines

`G2m.eval_g_tangent T P` and `G2m.eval_g_line T R P` (pairings.rs, GmSSL style) return a pair
`(num, den)` of elements of `Fq12`.  With `x = X/Z²`, `y = Y/Z³` the affine coordinates of the
Jacobian twist point `T`, `λ` the slope (tangent at `T`, resp. chord through `T` and `R`) and
`lineSpec x y λ xP yP` the textbook line value of `Sm9/Proofs/MillerLines.lean`:

  `den = b₁ · w³`  with  `b₁ ∈ Fq2ˣ`   and   **`num = −(den · lineSpec x y λ xP yP)`**.

So `num/den = −lineSpec`: the quotient differs from the textbook line by exactly `−1 ∈ Fq`; no power
of `w` survives in it.  (`b₁ = Z³Y` for the tangent, `(Z_R²X − Z²X_R)·Z·Z_R⁴` for the
chord; `R` may be any Jacobian representative — the Frobenius points `point_pi1`, `point_pi2` of
the code have `z = π₁`, `π₂`.)
-/
namespace Sm9

theorem Fq2.div2_eq (a : Fq2) : a.div2 = a / 2 := by
  have h2 := Fq2.two_ne_zero
  have h : a.div2 + a.div2 = a := by
    ext
    · exact Fq.div2_spec a.c0
    · exact Fq.div2_spec a.c1
  field_simp
  linear_combination h

namespace Miller

theorem naf_den_eq (b1 : Fq2) : (⟨⟨0, b1⟩, 0, 0⟩ : Fq12) = Fq12.ofFq2 b1 * Fq12.w ^ 3 := by
  rw [Fq12.w_pow3]
  ext : 2 <;> simp [Fq12.ofFq2_apply]

theorem naf_den_ne_zero (b1 : Fq2) (h : b1 ≠ 0) : (⟨⟨0, b1⟩, 0, 0⟩ : Fq12) ≠ 0 :=
  naf_den_eq b1 ▸ mul_ne_zero (Fq12.ofFq2_ne_zero h) (pow_ne_zero 3 Fq12.w_ne_zero)

theorem naf_line_of_coeffs (a0 a1 a4 b1 xT yT lam : Fq2) (xP yP : Fq)
    (h0 : a0 = b1 * (yT - lam * xT)) (h1 : a1 = -(b1 * Fq2.new yP 0))
    (h4 : a4 = b1 * lam * Fq2.new xP 0) :
    (⟨⟨a0, a1⟩, 0, ⟨a4, 0⟩⟩ : Fq12) = -((⟨⟨0, b1⟩, 0, 0⟩ : Fq12) * lineSpec xT yT lam xP yP) := by
  have hw := Fq12.w_ne_zero
  rw [naf_den_eq, lineSpec_eq_w, Fq12.decomp_ofFq2 ⟨⟨a0, a1⟩, 0, ⟨a4, 0⟩⟩, h0, h1, h4]
  simp only [Fq4.zero_c0, Fq4.zero_c1, Fq12.ofFq_eq_ofFq2, map_zero, zero_mul, add_zero, map_mul, map_neg, map_sub]
  field_simp
  ring

theorem eval_g_tangent_line (T : G2) (P : G1) (hz : T.z ≠ 0) (hy : T.y ≠ 0) :
    (G2m.eval_g_tangent T P).2 ≠ 0 ∧
    (G2m.eval_g_tangent T P).2 = Fq12.ofFq2 (T.z * T.z * T.z * T.y) * Fq12.w ^ 3 ∧
    (G2m.eval_g_tangent T P).1 = -((G2m.eval_g_tangent T P).2 *
      lineSpec (T.x / T.z ^ 2) (T.y / T.z ^ 3) (3 * (T.x / T.z ^ 2) ^ 2 / (2 * (T.y / T.z ^ 3))) P.x P.y) := by
  have h2 := Fq2.two_ne_zero
  unfold G2m.eval_g_tangent
  simp only [Fq2.squared_eq_mul, Fq2.scale_eq, Fq2.triple_eq, Fq2.div2_eq, Fq4.new]
  refine ⟨?_, naf_den_eq _, ?_⟩
  · exact naf_den_ne_zero _ (mul_ne_zero (mul_ne_zero (mul_ne_zero hz hz) hz) hy)
  · apply naf_line_of_coeffs
    · field_simp
      ring
    · rfl
    · field_simp
      ring

theorem naf_chord_algebra {K : Type} [Field K] (X Y Z Xr Yr Zr : K) (hz : Z ≠ 0) (hzr : Zr ≠ 0)
    (hd : Zr * Zr * X - Z * Z * Xr ≠ 0) :
    (Zr * Zr * X - Z * Z * Xr) * Z * Zr * Yr - (Zr * Zr * Zr * Y - Z * Z * Z * Yr) * Xr * Zr
      = (Zr * Zr * X - Z * Z * Xr) * Z * Zr * (Zr * Zr * Zr) *
          (Y / Z ^ 3 - (Yr / Zr ^ 3 - Y / Z ^ 3) / (Xr / Zr ^ 2 - X / Z ^ 2) * (X / Z ^ 2)) ∧
    Zr * Zr * Zr * (Zr * Zr * Zr * Y - Z * Z * Z * Yr)
      = (Zr * Zr * X - Z * Z * Xr) * Z * Zr * (Zr * Zr * Zr) *
          ((Yr / Zr ^ 3 - Y / Z ^ 3) / (Xr / Zr ^ 2 - X / Z ^ 2)) := by
  have e : Xr / Zr ^ 2 - X / Z ^ 2 = -(Zr * Zr * X - Z * Z * Xr) / (Z ^ 2 * Zr ^ 2) := by
    field_simp; ring
  rw [e]
  obtain ⟨D, hD⟩ : ∃ D, D = Zr * Zr * X - Z * Z * Xr := ⟨_, rfl⟩
  rw [← hD] at hd ⊢
  constructor
  · field_simp
    rw [hD]; ring
  · field_simp
    ring

theorem eval_g_line_line (T R : G2) (P : G1) (hz : T.z ≠ 0) (hRz : R.z ≠ 0)
    (hx : T.x / T.z ^ 2 ≠ R.x / R.z ^ 2) :
    (G2m.eval_g_line T R P).2 ≠ 0 ∧
    (G2m.eval_g_line T R P).2
      = Fq12.ofFq2 ((R.z * R.z * T.x - T.z * T.z * R.x) * T.z * R.z * (R.z * R.z * R.z)) * Fq12.w ^ 3 ∧
    (G2m.eval_g_line T R P).1 = -((G2m.eval_g_line T R P).2 *
      lineSpec (T.x / T.z ^ 2) (T.y / T.z ^ 3)
        ((R.y / R.z ^ 3 - T.y / T.z ^ 3) / (R.x / R.z ^ 2 - T.x / T.z ^ 2)) P.x P.y) := by
  have hd : R.z * R.z * T.x - T.z * T.z * R.x ≠ 0 := by
    intro h; apply hx
    field_simp
    linear_combination h
  obtain ⟨a1, a2⟩ := naf_chord_algebra T.x T.y T.z R.x R.y R.z hz hRz hd
  unfold G2m.eval_g_line
  simp only [Fq2.squared_eq_mul, Fq2.scale_eq, Fq4.new]
  refine ⟨?_, naf_den_eq _, ?_⟩
  · exact naf_den_ne_zero _ (mul_ne_zero (mul_ne_zero (mul_ne_zero hd hz) hRz)
      (mul_ne_zero (mul_ne_zero hRz hRz) hRz))
  · apply naf_line_of_coeffs
    · exact a1
    · rfl
    · rw [a2]

theorem pi2_eq : Fq2.new pi2 0 = pi1F ^ 2 := by decide +kernel

theorem one_scale (k : Fq) : (1 : Fq2).scale k = Fq2.new k 0 := by
  rw [Fq2.scale_eq, one_mul]

theorem point_pi1_eq (x y : Fq2) :
    G2m.point_pi1 (⟨x, y, 1⟩ : G2) = ⟨x.unitary_inverse, y.unitary_inverse, pi1F⟩ := by
  unfold G2m.point_pi1 G.new
  simp only [one_unitary_inverse, one_scale]
  rfl

theorem point_pi2_eq (x y : Fq2) :
    G2m.point_pi2 (⟨x, y, 1⟩ : G2) = ⟨x, y, pi1F ^ 2⟩ := by
  unfold G2m.point_pi2 G.new
  simp only [one_scale, pi2_eq]

/-- `point_pi1` of an affine point is `π` (`frobTwist`) in affine coordinates (`z = π₁ ≠ 0, 1`) -/
theorem point_pi1_affine (x y : Fq2) :
    (G2m.point_pi1 (⟨x, y, 1⟩ : G2)).z ≠ 0 ∧
    ((G2m.point_pi1 (⟨x, y, 1⟩ : G2)).x / (G2m.point_pi1 (⟨x, y, 1⟩ : G2)).z ^ 2,
     (G2m.point_pi1 (⟨x, y, 1⟩ : G2)).y / (G2m.point_pi1 (⟨x, y, 1⟩ : G2)).z ^ 3) = frobTwist (x, y) := by
  rw [point_pi1_eq]
  refine ⟨pi1F_ne_zero, ?_⟩
  unfold frobTwist
  simp only [div_eq_mul_inv, inv_pow]

/-- `point_pi2` of an affine point is `π²` in affine coordinates (`z = π₂ = π₁²`) -/
theorem point_pi2_affine (x y : Fq2) :
    (G2m.point_pi2 (⟨x, y, 1⟩ : G2)).z ≠ 0 ∧
    ((G2m.point_pi2 (⟨x, y, 1⟩ : G2)).x / (G2m.point_pi2 (⟨x, y, 1⟩ : G2)).z ^ 2,
     (G2m.point_pi2 (⟨x, y, 1⟩ : G2)).y / (G2m.point_pi2 (⟨x, y, 1⟩ : G2)).z ^ 3)
      = frobTwist (frobTwist (x, y)) := by
  have hp := pi1F_ne_zero
  rw [point_pi2_eq]
  refine ⟨pow_ne_zero _ hp, ?_⟩
  have hc : pi1F.unitary_inverse = pi1F := by decide +kernel
  have hci : (pi1F⁻¹).unitary_inverse = pi1F⁻¹ := by
    have := map_inv₀ conj pi1F
    rw [conj_apply, conj_apply, hc] at this
    exact this
  have hcc : ∀ a : Fq2, a.unitary_inverse.unitary_inverse = a := by
    intro a; ext <;> simp [Fq2.unitary_inverse]
  unfold frobTwist
  simp only
  rw [← conj_apply (x.unitary_inverse * _), ← conj_apply (y.unitary_inverse * _)]
  simp only [map_mul, map_pow, conj_apply, hcc, hci]
  refine Prod.ext ?_ ?_ <;> simp only <;> field_simp

example : (G.one : G2).z ≠ 0 ∧ (G.one : G2).y ≠ 0 := by decide +kernel

end Miller
end Sm9
