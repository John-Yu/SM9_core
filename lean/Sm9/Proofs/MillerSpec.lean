import Sm9.Proofs.MillerLines
/-!
# The textbook Miller loop of the R-ate pairing, over Mathlib's Weierstrass points

State `(T, f)`: `T` a point of the twist `E′(Fq2)` in `WeierstrassCurve.Affine.Point` (Mathlib's
group), `f ∈ Fq12`.  One iteration for a bit of `6t+2`:

  `f := f² · l_{T,T}(P)`, `T := T + T`;  if the bit is set: `f := f · l_{T,Q}(P)`, `T := T + Q`

where `l_{A,B}(P)` is `lineSpec` of `Sm9/Proofs/MillerLines.lean` — the line through the untwisted
`ψ(A)`, `ψ(B)` evaluated at `P` — with the slope `WeierstrassCurve.Affine.slope` of Mathlib (chord, or
tangent when `A = B`).  After the loop the two Frobenius steps

  `f := f · l_{T,Q1}(P)`, `T := T + Q1`;  `f := f · l_{T,−Q2}(P)`

with `Q1 = π(Q)`, `Q2 = π(Q1)`, `π(x, y) = (x̄·π₁⁻², ȳ·π₁⁻³)` the `q`-power Frobenius transported to
the twist (`frobTwist_untwist_x/y`: `ψ ∘ π = Frob_q ∘ ψ`).  The loop runs over the binary digits
of `Consts.SM9_LOOP_N = 6t+2` below the leading one, most significant first (`loopIdx`, `bit`),
exactly the addition chain of `G2Prepared::from`.

`specStepNaf`/`specLoopNaf` are the same loop over signed digits `d ∈ {0, 1, 2}` (`2` stands for `−1`:
`f := f · l_{T,−Q}(P)`, `T := T − Q`), the chain of `G2::miller_loop`.  The binary loop is the signed-digit loop
over the digits `bit N i` (`specLoop_eq_naf`); lemmas about the loops are proved for the signed-digit one.

`lineVal` is total: for `A` or `B` the point at infinity it returns `1`, and for a vertical line
(`A = −B`) it uses Mathlib's slope value `0`; the refinement theorem of
`Sm9/Proofs/MillerPrepared.lean` has hypotheses under which neither case occurs.
-/
namespace Sm9
namespace Miller
open WeierstrassCurve


section generic
variable {F : Type} [Field F] [DecidableEq F] {K : Type} [Mul K] [One K]

/-- value of the line through `A` and `B` (tangent if `A = B`); `ℓ x y λ` is the value of the
    line through `(x, y)` with slope `λ` -/
noncomputable def lineVal (W : Affine F) (ℓ : F → F → F → K) : W.Point → W.Point → K
  | .some x1 y1 _, .some x2 y2 _ => ℓ x1 y1 (W.slope x1 x2 y1 y2)
  | _, _ => 1

omit [Mul K] in
theorem lineVal_some (W : Affine F) (ℓ : F → F → F → K) {x1 y1 x2 y2 : F}
    (h1 : W.Nonsingular x1 y1) (h2 : W.Nonsingular x2 y2) :
    lineVal W ℓ (.some x1 y1 h1) (.some x2 y2 h2) = ℓ x1 y1 (W.slope x1 x2 y1 y2) := rfl

omit [DecidableEq F] [One K] in
theorem exists_some_of_ne_zero (W : Affine F) {A : W.Point} (hA : A ≠ 0) :
    ∃ x y h, A = .some x y h := by
  cases A with
  | zero => exact absurd rfl hA
  | some x y h => exact ⟨x, y, h, rfl⟩

noncomputable def specStep (W : Affine F) (ℓ : F → F → F → K) (Q : W.Point) (N : Nat)
    (st : W.Point × K) (i : Nat) : W.Point × K :=
  let f := st.2 * st.2 * lineVal W ℓ st.1 st.1
  let T := st.1 + st.1
  if bit N i then (T + Q, f * lineVal W ℓ T Q) else (T, f)

noncomputable def specLoop (W : Affine F) (ℓ : F → F → F → K) (Q : W.Point) (N : Nat)
    (idx : List Nat) : W.Point × K :=
  idx.foldl (specStep W ℓ Q N) (Q, 1)

/-- the two final line steps `l_{T,Q1} · l_{T+Q1,−Q2}` -/
noncomputable def specTail (W : Affine F) (ℓ : F → F → F → K) (Q1 Q2 : W.Point)
    (st : W.Point × K) : K :=
  let f := st.2 * lineVal W ℓ st.1 Q1
  let T := st.1 + Q1
  f * lineVal W ℓ T (-Q2)

/-- one iteration of the signed-digit Miller loop for the digit `d` (`1`: add `Q`, `2`: subtract `Q`) -/
noncomputable def specStepNaf (W : Affine F) (ℓ : F → F → F → K) (Q : W.Point)
    (st : W.Point × K) (d : Nat) : W.Point × K :=
  let f := st.2 * st.2 * lineVal W ℓ st.1 st.1
  let T := st.1 + st.1
  if d = 1 then (T + Q, f * lineVal W ℓ T Q)
  else if d = 2 then (T + -Q, f * lineVal W ℓ T (-Q))
  else (T, f)

noncomputable def specLoopNaf (W : Affine F) (ℓ : F → F → F → K) (Q : W.Point)
    (digits : List Nat) : W.Point × K :=
  digits.foldl (specStepNaf W ℓ Q) (Q, 1)

end generic

section bridge
variable {F : Type} [Field F] [DecidableEq F] {K : Type} [Mul K] [One K]

theorem specStep_eq_naf (W : Affine F) (ℓ : F → F → F → K) (Q : W.Point) (N : Nat) (st : W.Point × K)
    (i : Nat) : specStep W ℓ Q N st i = specStepNaf W ℓ Q st (if bit N i then 1 else 0) := by
  unfold specStep specStepNaf
  split <;> rfl

theorem specLoop_eq_naf (W : Affine F) (ℓ : F → F → F → K) (Q : W.Point) (N : Nat) (idx : List Nat) :
    specLoop W ℓ Q N idx = specLoopNaf W ℓ Q (idx.map fun i => if bit N i then 1 else 0) := by
  unfold specLoop specLoopNaf
  rw [List.foldl_map]
  exact congrArg (fun s => idx.foldl s (Q, 1)) (funext₂ (specStep_eq_naf W ℓ Q N))
end bridge

theorem lineVal_rel {F : Type} [Field F] [DecidableEq F] {K K' : Type} [One K] [One K'] {W : Affine F}
    {ℓ : F → F → F → K} {ℓ' : F → F → F → K'} (R : K → K' → Prop) (h1 : R 1 1)
    (hℓ : ∀ x y l, R (ℓ x y l) (ℓ' x y l)) (A B : W.Point) : R (lineVal W ℓ A B) (lineVal W ℓ' A B) := by
  cases A with
  | zero => exact h1
  | some x1 y1 _ =>
    cases B with
    | zero => exact h1
    | some x2 y2 _ => exact hℓ _ _ _

section rel
variable {F F' : Type} [Field F] [DecidableEq F] [Field F'] [DecidableEq F']
  {K K' : Type} [Mul K] [One K] [Mul K'] [One K']
  {W : Affine F} {W' : Affine F'} {ℓ : F → F → F → K} {ℓ' : F' → F' → F' → K'}
  (g : W.Point →+ W'.Point) (R : K → K' → Prop)

def StRel (st : W.Point × K) (st' : W'.Point × K') : Prop := st'.1 = g st.1 ∧ R st.2 st'.2

variable (h1 : R 1 1) (hmul : ∀ {a b c d}, R a b → R c d → R (a * c) (b * d))
  (hℓ : ∀ A B, R (lineVal W ℓ A B) (lineVal W' ℓ' (g A) (g B)))
include hmul hℓ

/-- **the Miller loop respects every relation that `1`, `*` and the line values respect**, along a
    homomorphism `g` of the point groups -/
theorem specStepNaf_rel (Q : W.Point) (d : Nat) {st : W.Point × K} {st' : W'.Point × K'}
    (h : StRel g R st st') : StRel g R (specStepNaf W ℓ Q st d) (specStepNaf W' ℓ' (g Q) st' d) := by
  obtain ⟨hT, hf⟩ := h
  have hd := hmul (hmul hf hf) (hℓ st.1 st.1)
  unfold specStepNaf StRel
  dsimp only
  rw [hT, ← map_add]
  split_ifs
  · exact ⟨(map_add g _ _).symm, hmul hd (hℓ _ _)⟩
  · rw [← map_neg]
    exact ⟨(map_add g _ _).symm, hmul hd (hℓ _ _)⟩
  · exact ⟨rfl, hd⟩

theorem specTail_rel (Q1 Q2 : W.Point) {st : W.Point × K} {st' : W'.Point × K'} (h : StRel g R st st') :
    R (specTail W ℓ Q1 Q2 st) (specTail W' ℓ' (g Q1) (g Q2) st') := by
  obtain ⟨hT, hf⟩ := h
  unfold specTail
  dsimp only
  rw [hT, ← map_add, ← map_neg]
  exact hmul (hmul hf (hℓ _ _)) (hℓ _ _)

include h1

theorem specLoopNaf_rel (Q : W.Point) (ds : List Nat) :
    StRel g R (specLoopNaf W ℓ Q ds) (specLoopNaf W' ℓ' (g Q) ds) :=
  List.foldl_rel (r := StRel g R) ⟨rfl, h1⟩ fun d _ _ _ h => specStepNaf_rel g R hmul hℓ Q d h

theorem specLoop_rel (Q : W.Point) (N : Nat) (idx : List Nat) :
    StRel g R (specLoop W ℓ Q N idx) (specLoop W' ℓ' (g Q) N idx) := by
  rw [specLoop_eq_naf, specLoop_eq_naf]
  exact specLoopNaf_rel g R h1 hmul hℓ Q _

end rel


/-- the multiple of `Q` reached from `m•Q` after the digits at positions `idx` of `N` -/
def chainVal (N : Nat) (idx : List Nat) (m : Nat) : Nat :=
  idx.foldl (fun m i => 2 * m + (if bit N i then 1 else 0)) m

theorem chainVal_loop : chainVal Consts.SM9_LOOP_N loopIdx 1 = Consts.SM9_LOOP_N := by decide +kernel

section
variable {F : Type} [Field F] [DecidableEq F] {K : Type} [Mul K] [One K]

theorem specStep_point (W : Affine F) (ℓ : F → F → F → K) (Q : W.Point) (N : Nat) (st : W.Point × K) (i m : Nat)
    (h : st.1 = m • Q) : (specStep W ℓ Q N st i).1 = (2 * m + (if bit N i then 1 else 0)) • Q := by
  unfold specStep
  split
  · simp only [h]
    rw [add_smul, one_smul, mul_smul, two_smul]
  · simp only [h, add_zero]
    rw [mul_smul, two_smul]

theorem foldl_specStep_point (W : Affine F) (ℓ : F → F → F → K) (Q : W.Point) (N : Nat) (idx : List Nat)
    (st : W.Point × K) (m : Nat) (h : st.1 = m • Q) :
    (idx.foldl (specStep W ℓ Q N) st).1 = chainVal N idx m • Q := by
  induction idx generalizing st m with
  | nil => exact h
  | cons i is ih => exact ih _ _ (specStep_point W ℓ Q N st i m h)
end

def nafNext (m d : Nat) : Nat := if d = 1 then 2 * m + 1 else if d = 2 then 2 * m - 1 else 2 * m

def chainValNaf (ds : List Nat) (m : Nat) : Nat := ds.foldl nafNext m

section
variable {F : Type} [Field F] [DecidableEq F] {K : Type} [Mul K] [One K]

theorem specStepNaf_point (W : Affine F) (ℓ : F → F → F → K) (Q : W.Point) (st : W.Point × K) (d m : Nat)
    (hm : 0 < m) (h : st.1 = m • Q) : (specStepNaf W ℓ Q st d).1 = nafNext m d • Q := by
  unfold specStepNaf nafNext
  split
  · simp only [h]
    rw [add_smul, one_smul, mul_smul, two_smul]
  · split
    · simp only [h]
      rw [← two_smul ℕ (m • Q), ← mul_smul, ← add_sub_one_nsmul (by omega : 2 * m ≠ 0) Q, add_neg_cancel_right]
    · simp only [h]
      rw [mul_smul, two_smul]

theorem nafNext_pos (m d : Nat) (hm : 0 < m) : 0 < nafNext m d := by
  unfold nafNext; split
  · omega
  · split <;> omega

theorem foldl_specStepNaf_point (W : Affine F) (ℓ : F → F → F → K) (Q : W.Point) (ds : List Nat)
    (st : W.Point × K) (m : Nat) (hm : 0 < m) (h : st.1 = m • Q) :
    (ds.foldl (specStepNaf W ℓ Q) st).1 = chainValNaf ds m • Q := by
  induction ds generalizing st m with
  | nil => exact h
  | cons d ds ih => exact ih _ _ (nafNext_pos m d hm) (specStepNaf_point W ℓ Q st d m hm h)
end

/-- side condition on the addition chain: every intermediate multiplier `m` has `0 < m` and
    `2m + 1 < r`, so that no doubling/addition meets `O` or `±Q` when `Q` has order `r` (one bound for every digit: a digit `0`
    needs only `2m < r`).  `binChainOK`, `nafChainOK` of ChainIndepDefs.lean omit `0 < m`: their invariant `Inv` carries it. -/
def chainOK (N : Nat) : List Nat → Nat → Bool
  | [], _ => true
  | i :: is, m => decide (0 < m) && decide (2 * m + 1 < r) && chainOK N is (2 * m + (if bit N i then 1 else 0))

theorem chainOK_loop : chainOK Consts.SM9_LOOP_N loopIdx 1 = true := by decide +kernel

theorem loopN_bounds : 0 < Consts.SM9_LOOP_N ∧ Consts.SM9_LOOP_N < r := by decide +kernel

section order
variable {A : Type} [AddGroup A] {Qp : A}

theorem nsmul_ne_zero_of_lt (hr : r • Qp = 0) (h0 : Qp ≠ 0) {k : Nat} (hk : 0 < k) (hlt : k < r) :
    k • Qp ≠ 0 := by
  intro h
  have ho : addOrderOf Qp = r := addOrderOf_eq_prime hr h0
  have hd := addOrderOf_dvd_of_nsmul_eq_zero h
  rw [ho] at hd
  exact absurd (Nat.le_of_dvd hk hd) (by omega)

theorem nsmul_ne_self (hr : r • Qp = 0) (h0 : Qp ≠ 0) {k : Nat} (hk : 1 < k) (hlt : k ≤ r) :
    k • Qp ≠ Qp := by
  intro h
  apply nsmul_ne_zero_of_lt hr h0 (k := k - 1) (by omega) (by omega)
  rw [← add_sub_one_nsmul (by omega : k ≠ 0) Qp] at h
  exact add_eq_right.mp h

theorem nsmul_ne_neg (hr : r • Qp = 0) (h0 : Qp ≠ 0) {k : Nat} (hlt : k + 1 < r) :
    k • Qp ≠ -Qp := by
  intro h
  apply nsmul_ne_zero_of_lt hr h0 (k := k + 1) (by omega) hlt
  rw [succ_nsmul, h, neg_add_cancel]

theorem zsmul_eq_zero_iff_dvd (hr : r • Qp = 0) (h0 : Qp ≠ 0) (z : ℤ) : z • Qp = 0 ↔ (r : ℤ) ∣ z := by
  rw [← addOrderOf_eq_prime hr h0]
  exact addOrderOf_dvd_iff_zsmul_eq_zero.symm

end order

/-- `chainOK` for any rule `next` giving the next multiplier from the index -/
def chainOKBy {ι : Type} (next : Nat → ι → Nat) : List ι → Nat → Bool
  | [], _ => true
  | i :: is, m => decide (0 < m) && decide (2 * m + 1 < r) && chainOKBy next is (next m i)

theorem chainOK_eq (N : Nat) (idx : List Nat) (m : Nat) :
    chainOK N idx m = chainOKBy (fun m i => 2 * m + (if bit N i then 1 else 0)) idx m := by
  induction idx generalizing m with
  | nil => rfl
  | cons i is ih => rw [chainOK, chainOKBy, ih]

/-- **one induction for every walk along a chain that stays in range**: a relation between the states of
    two folds, indexed by the multiplier, that each step preserves while `0 < m`, `2m + 1 < r` -/
theorem chain_sim {α β ι : Type} (next : Nat → ι → Nat) (R : Nat → α → β → Prop) (f : α → ι → α)
    (g : β → ι → β)
    (hstep : ∀ m a b i, 0 < m → 2 * m + 1 < r → R m a b → R (next m i) (f a i) (g b i)) :
    ∀ (l : List ι) (m : Nat) (a : α) (b : β), chainOKBy next l m = true → R m a b →
      R (l.foldl next m) (l.foldl f a) (l.foldl g b) := by
  intro l
  induction l with
  | nil => intro m a b _ h; exact h
  | cons i is ih =>
    intro m a b hok h
    simp only [chainOKBy, Bool.and_eq_true, decide_eq_true_eq] at hok
    exact ih _ _ _ hok.2 (hstep m a b i hok.1.1 hok.1.2 h)

section nonzero
variable {F : Type} [Field F] [DecidableEq F] {K : Type} [Field K]

theorem lineVal_ne_zero (W : Affine F) (ℓ : F → F → F → K) (hℓ : ∀ x y l, ℓ x y l ≠ 0) (A B : W.Point) :
    lineVal W ℓ A B ≠ 0 :=
  lineVal_rel (ℓ' := ℓ) (fun a (_ : K) => a ≠ 0) one_ne_zero hℓ A B

theorem specTail_loopNaf_ne_zero (W : Affine F) (ℓ : F → F → F → K) (hℓ : ∀ x y l, ℓ x y l ≠ 0)
    (Q Q1 Q2 : W.Point) (ds : List Nat) : specTail W ℓ Q1 Q2 (specLoopNaf W ℓ Q ds) ≠ 0 :=
  have h : ∀ A B, lineVal W ℓ A B ≠ 0 := lineVal_ne_zero W ℓ hℓ
  specTail_rel (ℓ' := ℓ) (AddMonoidHom.id _) (fun a (_ : K) => a ≠ 0) mul_ne_zero h Q1 Q2
    (specLoopNaf_rel (ℓ' := ℓ) (AddMonoidHom.id _) (fun a (_ : K) => a ≠ 0) one_ne_zero mul_ne_zero h Q ds)
end nonzero

def pi1F : Fq2 := Fq2.new pi1 0

/-- the `q`-power Frobenius transported to the twist: `(x, y) ↦ (x̄·π₁⁻², ȳ·π₁⁻³)` -/
noncomputable def frobTwist (p : Fq2 × Fq2) : Fq2 × Fq2 :=
  (p.1.unitary_inverse * pi1F⁻¹ ^ 2, p.2.unitary_inverse * pi1F⁻¹ ^ 3)

/-- the point of `E′(Fq2)` with affine coordinates `p` (`O` if `p` is not on the twist) -/
noncomputable def twPt (p : Fq2 × Fq2) := Jac.toAff b2 ⟨p.1, p.2, 1⟩

noncomputable def lineAt (xP yP : Fq) : Fq2 → Fq2 → Fq2 → Fq12 :=
  fun x y lam => lineSpec x y lam xP yP

/-- **the textbook Miller function of the SM9 R-ate pairing** at `P = (xP, yP)`, `Q = (xQ, yQ)`:
    `f_{6t+2,Q}(P) · l_{[6t+2]Q, π(Q)}(P) · l_{[6t+2]Q + π(Q), −π²(Q)}(P)` by the binary chain -/
noncomputable def specMiller (xP yP : Fq) (xQ yQ : Fq2) : Fq12 :=
  specTail (Jac.Wb b2) (lineAt xP yP) (twPt (frobTwist (xQ, yQ))) (twPt (frobTwist (frobTwist (xQ, yQ))))
    (specLoop (Jac.Wb b2) (lineAt xP yP) (twPt (xQ, yQ)) Consts.SM9_LOOP_N loopIdx)


theorem specLoop_point {F K : Type} [Field F] [DecidableEq F] [Mul K] [One K] (W : Affine F) (ℓ : F → F → F → K)
    (Q : W.Point) : (specLoop W ℓ Q Consts.SM9_LOOP_N loopIdx).1 = Consts.SM9_LOOP_N • Q :=
  chainVal_loop ▸ foldl_specStep_point W ℓ Q Consts.SM9_LOOP_N loopIdx (Q, 1) 1 (one_smul _ _).symm

theorem pi1F_pow6 : pi1F ^ 6 = -1 := by decide +kernel
theorem pi1F_ne_zero : pi1F ≠ 0 := by decide +kernel
theorem pi1F_inv_pow6 : pi1F⁻¹ ^ 6 = -1 := by
  rw [inv_pow, pi1F_pow6, inv_neg, inv_one]

def conj : Fq2 →+* Fq2 where
  toFun a := a.unitary_inverse
  map_one' := by ext <;> simp [Fq2.unitary_inverse]
  map_zero' := by ext <;> simp [Fq2.unitary_inverse]
  map_mul' := by intros; ext <;> (simp [Fq2.unitary_inverse]; ring)
  map_add' := by intros; ext <;> simp [Fq2.unitary_inverse]; ring

theorem conj_apply (a : Fq2) : conj a = a.unitary_inverse := rfl
theorem one_unitary_inverse : (1 : Fq2).unitary_inverse = 1 := map_one conj
theorem conj_b2 : b2.unitary_inverse = -b2 := by decide +kernel

theorem frobTwist_equation (p : Fq2 × Fq2) (h : p.2 * p.2 = p.1 * p.1 * p.1 + b2) :
    (frobTwist p).2 * (frobTwist p).2 = (frobTwist p).1 * (frobTwist p).1 * (frobTwist p).1 + b2 := by
  have h' := congrArg conj h
  simp only [map_mul, map_add, conj_apply, conj_b2] at h'
  unfold frobTwist
  simp only
  have e6 := pi1F_inv_pow6
  generalize pi1F⁻¹ = c at e6
  linear_combination (c ^ 6) * h' - b2 * e6

/-! `ψ ∘ π = Frob_q ∘ ψ` for the untwisting `ψ(x, y) = (x w⁻², y w⁻³)` -/

theorem ofFq2_pow_q (a : Fq2) : Fq12.ofFq2 a ^ q = Fq12.ofFq2 a.unitary_inverse := by
  rw [← pow_one q, Fq12.pow_q_pow_eq_twist, pow_one, Fq12.ofFq2_apply, Fq12.ofFq2_apply]
  ext <;> simp only [Fq12.twist, Fq2.unitary_inverse, Fq12.consts6, Fq4.zero_c0, Fq4.zero_c1, Fq2.zero_c0,
    Fq2.zero_c1, zero_mul, mul_neg_one]

theorem ofFq2_pi1F : Fq12.ofFq2 pi1F = Fq12.ofFq Fq4.alpha1 := by
  rw [← pi1_eq]; rfl

theorem w_pow_inv_pow_q (n : ℕ) : ((Fq12.w ^ n)⁻¹) ^ q = Fq12.ofFq2 (pi1F⁻¹ ^ n) * (Fq12.w ^ n)⁻¹ := by
  rw [inv_pow, ← pow_mul, mul_comm n q, pow_mul, Fq12.w_pow_q, ← ofFq2_pi1F, mul_pow, mul_inv, map_pow,
    map_inv₀, inv_pow]

theorem frobTwist_untwist_x (p : Fq2 × Fq2) :
    Fq12.ofFq2 (frobTwist p).1 * (Fq12.w ^ 2)⁻¹ = (Fq12.ofFq2 p.1 * (Fq12.w ^ 2)⁻¹) ^ q := by
  rw [mul_pow, ofFq2_pow_q, w_pow_inv_pow_q, ← mul_assoc, ← map_mul]
  rfl

theorem frobTwist_untwist_y (p : Fq2 × Fq2) :
    Fq12.ofFq2 (frobTwist p).2 * (Fq12.w ^ 3)⁻¹ = (Fq12.ofFq2 p.2 * (Fq12.w ^ 3)⁻¹) ^ q := by
  rw [mul_pow, ofFq2_pow_q, w_pow_inv_pow_q, ← mul_assoc, ← map_mul]
  rfl

end Miller
end Sm9
