import Sm9.Proofs.FieldProgram
import Sm9.Proofs.MontSop
import Sm9.Proofs.Tower
/-!
C07 for Fq2 registers: the register machine `fstep O` / `frun O` of `Sm9/Model/Prog.lean` at the quadratic
extension `Fq2 = Fq[u]/(u²+2)`.

* LIMB level `Fq2Prog.opsL : FOps (Nat × Nat)`: a register is the pair `(c0, c1)` of stored
  Montgomery representatives; `slice` is `Fq2::from_slice` (64 bytes, imaginary part first, each
  half decoded by the strict `fields::Fq::from_slice` = `Fp.from_slice paramsQ`), `add sub neg` are
  coordinate-wise and `mul` is `Fq2::mul_inplace`: two interleaved `Fq::sum_of_products`.
* VALUE level `Fq2Prog.opsV : FOps Fq2`: `Api.fq2FromSlice` and the model's `+ - * -` on `Fq2`.

The public `Fq2` API has no `const`, `str`, `hash`, `random`, `pow`, `inverse`, `sqrt`, `set_bit`
step in the program language: these fields of `FOps` are `none` at both levels (a program that uses
them fails on both machines).
-/

namespace Sm9

namespace Fq2Prog

/-- `Fq2::from_slice` on limbs: 64 bytes, the first 32 are the imaginary part `c1`, the last 32 the
    real part `c0`; each half goes through the strict decoder `fields::Fq::from_slice` -/
def sliceL (bs : List UInt8) : Option (Nat × Nat) :=
  if bs.length = 64 then
    match Fp.from_slice paramsQ (bs.take 32), Fp.from_slice paramsQ (bs.drop 32) with
    | some c1, some c0 => some (c0, c1)
    | _, _ => none
  else none

/-- both results, or `none` as soon as one computation did not terminate -/
def pairOpt (x y : Option Nat) : Option (Nat × Nat) :=
  match x, y with
  | some c0, some c1 => some (c0, c1)
  | _, _ => none

/-- `Fq2::mul_inplace` of fq2.rs on limbs: c0 = Σ [a0, −2·a1]·[b0, b1], c1 = Σ [a0, a1]·[b1, b0];
    `none` iff one of the two `sum_of_products` runs out of fuel -/
def mulL (a b : Nat × Nat) : Option (Nat × Nat) :=
  pairOpt (FqL.sum_of_products [a.1, Fp.neg paramsQ (Fp.double paramsQ a.2)] [b.1, b.2])
    (FqL.sum_of_products [a.1, a.2] [b.2, b.1])

/-- LIMB level, Fq2: registers are pairs `(c0, c1)` of stored Montgomery representatives.
    An API result `None` of `from_slice` leaves zero.  `const str hash random pow inv sqrt setbit`
    do not exist for Fq2. -/
def opsL : FOps (Nat × Nat) where
  const := fun _ => none
  slice := fun bs => some ((sliceL bs).getD (Fp.zero, Fp.zero))
  str := fun _ => none
  hash := fun _ => none
  random := fun _ => none
  add := fun a b => some (Fp.add paramsQ a.1 b.1, Fp.add paramsQ a.2 b.2)
  sub := fun a b => some (Fp.sub paramsQ a.1 b.1, Fp.sub paramsQ a.2 b.2)
  mul := mulL
  pow := fun _ _ => none
  neg := fun a => some (Fp.neg paramsQ a.1, Fp.neg paramsQ a.2)
  inv := fun _ => none
  sqrt := fun _ => none
  setbit := fun _ _ _ => none

def opsV : FOps Fq2 where
  const := fun _ => none
  slice := fun bs => some ((Api.fq2FromSlice bs).getD Fq2.zero)
  str := fun _ => none
  hash := fun _ => none
  random := fun _ => none
  add := fun a b => some (a + b)
  sub := fun a b => some (a - b)
  mul := fun a b => some (a * b)
  pow := fun _ _ => none
  neg := fun a => some (-a)
  inv := fun _ => none
  sqrt := fun _ => none
  setbit := fun _ _ _ => none

def fstepL : List (Nat × Nat) → FInstr → Option (List (Nat × Nat)) := fstep opsL
def fstepV : List Fq2 → FInstr → Option (List Fq2) := fstep opsV
def frunL : List FInstr → Option (List (Nat × Nat)) := frun opsL
def frunV : List FInstr → Option (List Fq2) := frun opsV

/-- a limb-level register `(x0, x1)` is, in both coordinates, the canonical Montgomery
    representative of the coordinates of the value `a` -/
def CanonRel2 (x : Nat × Nat) (a : Fq2) : Prop := FqProg.CanonRel x.1 a.c0 ∧ FqProg.CanonRel x.2 a.c1

theorem canonRel2_zero : CanonRel2 (Fp.zero, Fp.zero) Fq2.zero :=
  ⟨FqProg.canonRel_zero, FqProg.canonRel_zero⟩

theorem slice_rel (bs : List UInt8) :
    CanonRel2 ((sliceL bs).getD (Fp.zero, Fp.zero)) ((Api.fq2FromSlice bs).getD Fq2.zero) := by
  have r1 := Fq.from_slice_strict_rep (bs.take 32)
  have r0 := Fq.from_slice_strict_rep (bs.drop 32)
  unfold sliceL Api.fq2FromSlice
  split
  · exact r1.cases canonRel2_zero fun _ _ h1 => r0.cases canonRel2_zero fun _ _ h0 => ⟨h0, h1⟩
  · exact canonRel2_zero

theorem add_rel {a b : Nat × Nat} {a' b' : Fq2} (ha : CanonRel2 a a') (hb : CanonRel2 b b') :
    CanonRel2 (Fp.add paramsQ a.1 b.1, Fp.add paramsQ a.2 b.2) (a' + b') :=
  ⟨ha.1.add hb.1, ha.2.add hb.2⟩

theorem sub_rel {a b : Nat × Nat} {a' b' : Fq2} (ha : CanonRel2 a a') (hb : CanonRel2 b b') :
    CanonRel2 (Fp.sub paramsQ a.1 b.1, Fp.sub paramsQ a.2 b.2) (a' - b') :=
  ⟨ha.1.sub hb.1, ha.2.sub hb.2⟩

theorem neg_rel {a : Nat × Nat} {a' : Fq2} (ha : CanonRel2 a a') :
    CanonRel2 (Fp.neg paramsQ a.1, Fp.neg paramsQ a.2) (-a') :=
  ⟨ha.1.neg, ha.2.neg⟩

theorem sop2_rel {a0 a1 b0 b1 : Nat} {x0 x1 y0 y1 : Fq} (ha0 : FqProg.CanonRel a0 x0)
    (ha1 : FqProg.CanonRel a1 x1) (hb0 : FqProg.CanonRel b0 y0) (hb1 : FqProg.CanonRel b1 y1) :
    ∃ res, FqL.sum_of_products [a0, a1] [b0, b1] = some res ∧
      FqProg.CanonRel res (Fq.sum_of_products [x0, x1] [y0, y1]) := by
  refine ⟨_, FqL.sum_of_products_eq_mul_add a0 a1 b0 b1 ha0.1 ha1.1 hb0.1 hb1.1, ?_⟩
  rw [Fq.sop2]
  exact (ha0.mul hb0).add (ha1.mul hb1)

theorem pairOpt_some {x y : Option Nat} {r0 r1 : Nat} (e0 : x = some r0) (e1 : y = some r1) :
    pairOpt x y = some (r0, r1) := by
  subst e0 e1; rfl

theorem mulL_spec {a b : Nat × Nat} {a' b' : Fq2} (ha : CanonRel2 a a') (hb : CanonRel2 b b') :
    ∃ r, mulL a b = some r ∧ CanonRel2 r (a' * b') := by
  obtain ⟨r0, e0, h0⟩ := sop2_rel ha.1 ha.2.double.neg hb.1 hb.2
  obtain ⟨r1, e1, h1⟩ := sop2_rel ha.1 ha.2 hb.2 hb.1
  exact ⟨(r0, r1), pairOpt_some e0 e1, h0, h1⟩

theorem mul_rel {a b : Nat × Nat} {a' b' : Fq2} (ha : CanonRel2 a a') (hb : CanonRel2 b b') :
    OptRel CanonRel2 (mulL a b) (some (a' * b')) := by
  obtain ⟨r, e, h⟩ := mulL_spec ha hb
  rw [e]; exact h

theorem opsSim : OpsSim CanonRel2 opsL opsV where
  const := fun _ => .none_none
  slice := fun bs => slice_rel bs
  str := fun _ => .none_none
  hash := fun _ => .none_none
  random := fun _ => .none_none
  add := fun ha hb => add_rel ha hb
  sub := fun ha hb => sub_rel ha hb
  mul := fun ha hb => mul_rel ha hb
  pow := fun _ _ => .none_none
  neg := fun ha => neg_rel ha
  inv := fun _ => .none_none
  sqrt := fun _ => .none_none
  setbit := fun _ _ _ => .none_none

theorem fstep_refines {regs : List (Nat × Nat)} {ds : List Fq2} (h : List.Forall₂ CanonRel2 regs ds)
    (ins : FInstr) : OptRel (List.Forall₂ CanonRel2) (fstepL regs ins) (fstepV ds ins) :=
  fstep_sim opsSim h ins

theorem frunFrom_refines (prog : List FInstr) (regs : List (Nat × Nat)) (ds : List Fq2)
    (h : List.Forall₂ CanonRel2 regs ds) :
    OptRel (List.Forall₂ CanonRel2) (frunFrom opsL regs prog) (frunFrom opsV ds prog) :=
  frunFrom_sim opsSim prog regs ds h

/-- **every program over the Fq2 operations**: if the value-level machine runs, the limb-level
    machine runs too (no `sum_of_products` runs out of fuel), and limb register k is, in both
    coordinates, the canonical Montgomery representative (`< q`) of value register k -/
theorem frun_refines (prog : List FInstr) (ds : List Fq2) (h : frunV prog = some ds) :
    ∃ regs, frunL prog = some regs ∧ List.Forall₂ CanonRel2 regs ds :=
  (frun_sim opsSim prog).of_some h

theorem frun_fails_iff (prog : List FInstr) : frunL prog = none ↔ frunV prog = none :=
  (frun_sim opsSim prog).none_iff

theorem forall₂_canon {regs : List (Nat × Nat)} {ds : List Fq2} (h : List.Forall₂ CanonRel2 regs ds) :
    ∀ x ∈ regs, x.1 < paramsQ.modulus ∧ x.2 < paramsQ.modulus :=
  forall₂_left (fun _ _ hr => ⟨hr.1.1, hr.2.1⟩) h

theorem frun_canonical (prog : List FInstr) (regs : List (Nat × Nat)) (h : frunL prog = some regs) :
    ∀ x ∈ regs, x.1 < paramsQ.modulus ∧ x.2 < paramsQ.modulus :=
  opsSim.left_inv (fun _ _ hr => ⟨hr.1.1, hr.2.1⟩) h

def wfInstr (n : Nat) : FInstr → Bool
  | .slice _ => true
  | .add i j => decide (i < n) && decide (j < n)
  | .sub i j => decide (i < n) && decide (j < n)
  | .mul i j => decide (i < n) && decide (j < n)
  | .neg i => decide (i < n)
  | .dup i => decide (i < n)
  | _ => false

def wfFrom : Nat → List FInstr → Bool
  | _, [] => true
  | n, ins :: rest => wfInstr n ins && wfFrom (n + 1) rest

/-- the program only uses `slice add sub mul neg dup` and every register index refers to an
    earlier step -/
def WellFormed (prog : List FInstr) : Prop := wfFrom 0 prog = true

instance (prog : List FInstr) : Decidable (WellFormed prog) := by unfold WellFormed; infer_instance

theorem fnewV_isSome (ds : List Fq2) (ins : FInstr) : (fnew opsV ds ins).isSome = wfInstr ds.length ins := by
  cases ins with
  | add i j => exact (isSome_binop ds i j _ true fun _ _ => rfl).trans (Bool.and_true _)
  | sub i j => exact (isSome_binop ds i j _ true fun _ _ => rfl).trans (Bool.and_true _)
  | mul i j => exact (isSome_binop ds i j _ true fun _ _ => rfl).trans (Bool.and_true _)
  | pow i j => exact (isSome_binop ds i j _ false fun _ _ => rfl).trans (Bool.and_false _)
  | neg i => exact (isSome_unop ds i _ true fun _ => rfl).trans (Bool.and_true _)
  | inv i => exact (isSome_unop ds i _ false fun _ => rfl).trans (Bool.and_false _)
  | sqrt i => exact (isSome_unop ds i _ false fun _ => rfl).trans (Bool.and_false _)
  | setbit i b v => exact (isSome_unop ds i _ false fun _ => rfl).trans (Bool.and_false _)
  | dup i => exact isSome_lookup ds i
  | _ => rfl

theorem frunV_fails_iff_wf (prog : List FInstr) : frunV prog = none ↔ ¬ WellFormed prog :=
  frun_eq_none_iff (fun _ => rfl) (fun _ _ _ => rfl) fnewV_isSome prog

theorem frunL_fails_iff_wf (prog : List FInstr) : frunL prog = none ↔ ¬ WellFormed prog :=
  (frun_fails_iff prog).trans (frunV_fails_iff_wf prog)

/-- **totality**: on every well-formed program the limb-level machine terminates within the model's
    fuel, with canonical registers denoting the value-level registers -/
theorem frunL_total (prog : List FInstr) (hwf : WellFormed prog) :
    ∃ regs ds, frunL prog = some regs ∧ frunV prog = some ds ∧ List.Forall₂ CanonRel2 regs ds ∧
      regs.length = prog.length ∧ ∀ x ∈ regs, x.1 < paramsQ.modulus ∧ x.2 < paramsQ.modulus :=
  opsSim.total (fun _ _ hr => ⟨hr.1.1, hr.2.1⟩) fun h => (frunV_fails_iff_wf prog).mp h hwf

/-- derived `PartialEq` of `Fq2`: equality of the raw limbs of both coordinates -/
def eqObs2 (x y : Nat × Nat) : Bool := x == y
/-- `Fq2::is_zero`: `c0.is_zero() && c1.is_zero()` -/
def isZeroObs2 (x : Nat × Nat) : Bool := FProg.isZeroObs x.1 && FProg.isZeroObs x.2
/-- `Fq2::to_slice`: imaginary part first -/
def toSliceObs2 (x : Nat × Nat) : List UInt8 := FProg.toSliceObs paramsQ x.2 ++ FProg.toSliceObs paramsQ x.1
/-- `Fq2::is_even`: parity of the real part -/
def isEvenObs2 (x : Nat × Nat) : Bool := FProg.isEvenObs x.1

theorem biUnique : Relator.BiUnique CanonRel2 :=
  ⟨fun _ _ _ hx hy => Prod.ext (FqProg.biUnique.1 hx.1 hy.1) (FqProg.biUnique.1 hx.2 hy.2),
   fun _ _ _ hx hy => Fq2.ext (FqProg.biUnique.2 hx.1 hy.1) (FqProg.biUnique.2 hx.2 hy.2)⟩

theorem canonRel2_unique {x y : Nat × Nat} {a : Fq2} (hx : CanonRel2 x a) (hy : CanonRel2 y a) : x = y :=
  biUnique.1 hx hy

theorem observe_eq {x y : Nat × Nat} {a b : Fq2} (hx : CanonRel2 x a) (hy : CanonRel2 y b) :
    x = y ↔ a = b :=
  Relator.rel_eq biUnique hx hy

theorem observe_is_zero {x : Nat × Nat} {a : Fq2} (hx : CanonRel2 x a) : isZeroObs2 x = a.is_zero := by
  unfold isZeroObs2 Fq2.is_zero
  rw [FqProg.observe_is_zero hx.1, FqProg.observe_is_zero hx.2]

theorem observe_is_zero_iff {x : Nat × Nat} {a : Fq2} (hx : CanonRel2 x a) :
    isZeroObs2 x = true ↔ a = Fq2.zero := by
  rw [observe_is_zero hx]; exact Fq2.is_zero_iff a

theorem observe_limbs_zero_iff {x : Nat × Nat} {a : Fq2} (hx : CanonRel2 x a) :
    x = (Fp.zero, Fp.zero) ↔ a = Fq2.zero :=
  observe_eq hx canonRel2_zero

theorem observe_to_slice {x : Nat × Nat} {a : Fq2} (hx : CanonRel2 x a) : toSliceObs2 x = Api.fq2ToSlice a := by
  unfold toSliceObs2 Api.fq2ToSlice
  rw [FqProg.observe_to_slice hx.1, FqProg.observe_to_slice hx.2]

theorem observe_is_even {x : Nat × Nat} {a : Fq2} (hx : CanonRel2 x a) : isEvenObs2 x = Api.fq2IsEven a :=
  FqProg.observe_is_even hx.1

theorem canonRel2_into {x : Nat × Nat} {a : Fq2} (hx : CanonRel2 x a) :
    (Fp.into_u256 paramsQ x.1, Fp.into_u256 paramsQ x.2) = (a.c0.val, a.c1.val) := by
  rw [Fq.into_u256_refines x.1 hx.1.1, Fq.into_u256_refines x.2 hx.2.1, hx.1.2, hx.2.2]

theorem canonRel2_fresh (a : Fq2) :
    CanonRel2 (Fp.new_mul_factor paramsQ a.c0.val, Fp.new_mul_factor paramsQ a.c1.val) a :=
  ⟨FqProg.canonRel_fresh a.c0, FqProg.canonRel_fresh a.c1⟩

theorem step_congr {regs regs' : List (Nat × Nat)} {ds : List Fq2} (h : List.Forall₂ CanonRel2 regs ds)
    (h' : List.Forall₂ CanonRel2 regs' ds) (ins : FInstr) :
    OptRel (List.Forall₂ CanonRel2) (fstepL regs ins) (fstepV ds ins) ∧
    OptRel (List.Forall₂ CanonRel2) (fstepL regs' ins) (fstepV ds ins) ∧
    fstepL regs ins = fstepL regs' ins :=
  opsSim.step_congr biUnique.1 h h' ins

theorem frun_observe (prog : List FInstr) (regs : List (Nat × Nat)) (h : frunL prog = some regs) :
    ∃ ds, frunV prog = some ds ∧ ds.length = regs.length ∧
      ∀ (i j : Nat) (x y : Nat × Nat), regs[i]? = some x → regs[j]? = some y →
        ∃ a b, ds[i]? = some a ∧ ds[j]? = some b ∧ CanonRel2 x a ∧
        eqObs2 x y = decide (a = b) ∧ isZeroObs2 x = a.is_zero ∧
        toSliceObs2 x = Api.fq2ToSlice a ∧ isEvenObs2 x = Api.fq2IsEven a :=
  opsSim.observe (fun hxa hyb => ⟨hxa, beq_eq_decide_of_biUnique biUnique hxa hyb, observe_is_zero hxa,
    observe_to_slice hxa, observe_is_even hxa⟩) h

/-- 64 bytes: imaginary part `im` first, then real part `re` (both one-byte values) -/
def bytes2 (im re : UInt8) : List UInt8 := List.replicate 31 0 ++ [im] ++ (List.replicate 31 0 ++ [re])

/-- (3 + 5u)·(7 + 11u) -/
def demo : List FInstr := [.slice (bytes2 5 3), .slice (bytes2 11 7), .mul 0 1]

example : WellFormed demo := by decide

/-- the value machine runs: (3 + 5u)(7 + 11u) = (21 − 2·55) + (33 + 35)u -/
theorem demo_runs : frunV demo = some [Fq2.new (Fq.ofNat 3) (Fq.ofNat 5), Fq2.new (Fq.ofNat 7) (Fq.ofNat 11),
    Fq2.new (Fq.ofNat (q - 89)) (Fq.ofNat 68)] := by decide +kernel

example : frunV demo = some [Fq2.new (Fq.ofNat 3) (Fq.ofNat 5), Fq2.new (Fq.ofNat 7) (Fq.ofNat 11),
    Fq2.new (Fq.ofNat (q - 89)) (Fq.ofNat 68)] := demo_runs

/-- the limb machine's registers, taken out of Montgomery form, are the value machine's: the refinement
    theorem read at this program -/
example : (frunL demo).map (List.map fun x => (Fp.into_u256 paramsQ x.1, Fp.into_u256 paramsQ x.2))
    = some [(3, 5), (7, 11), (q - 89, 68)] := by
  obtain ⟨regs, h, hr⟩ := frun_refines demo _ demo_runs
  rw [h, Option.map_some, forall₂_map_eq (fun _ _ h => canonRel2_into h) hr]
  decide +kernel

/-- the `None` convention: a 63-byte slice and a slice whose real part is `2^256 − 1 ≥ q` leave zero;
    all six instructions -/
example : frunV [.slice (List.replicate 63 1), .slice (List.replicate 32 0 ++ List.replicate 32 255),
      .slice (bytes2 1 2), .add 0 2, .sub 3 2, .neg 2, .dup 5, .mul 6 2] =
    some [Fq2.zero, Fq2.zero, Fq2.new (Fq.ofNat 2) (Fq.ofNat 1), Fq2.new (Fq.ofNat 2) (Fq.ofNat 1), Fq2.zero,
      Fq2.new (Fq.ofNat (q - 2)) (Fq.ofNat (q - 1)), Fq2.new (Fq.ofNat (q - 2)) (Fq.ofNat (q - 1)),
      Fq2.new (Fq.ofNat (q - 2)) (Fq.ofNat (q - 4))] := by decide +kernel

/-- programs on which both machines fail: an index out of range, an instruction Fq2 does not have -/
example : frunL [.slice (bytes2 1 2), .mul 0 1] = none ∧ frunV [.slice (bytes2 1 2), .mul 0 1] = none ∧
    frunL [.const 5] = none ∧ frunV [.const 5] = none ∧ frunL [.slice [], .inv 0] = none := by
  refine ⟨?_, ?_, ?_, ?_, ?_⟩ <;> rfl

end Fq2Prog

end Sm9
