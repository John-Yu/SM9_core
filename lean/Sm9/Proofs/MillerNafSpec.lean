import Sm9.Proofs.MillerSpec
/-!
# The textbook Miller loop of the R-ate pairing over a signed-digit chain

The signed-digit loop `specLoopNaf` of `Sm9/Proofs/MillerSpec.lean` (digits `d ∈ {0, 1, 2}`, `2` stands
for `−1`) over the table `Consts.SM9_LOOP_COUNT` of `G2::miller_loop` (pairings.rs):

  `f := f² · l_{T,T}(P)`, `T := 2T`;
  `d = 1`:  `f := f · l_{T,Q}(P)`,  `T := T + Q`;
  `d = 2`:  `f := f · l_{T,−Q}(P)`, `T := T − Q`.

After the loop the two Frobenius lines of `specTail`.  Vertical lines are omitted, as in
`specMiller`.  The chain reaches the same multiple `6t+2` (`chainValNaf_loop`), so `specMillerNaf` and
`specMiller` are two Miller functions `f_{6t+2,Q}` computed along different addition chains (times the same
two lines).
-/
namespace Sm9
namespace Miller
open WeierstrassCurve

/-- the signed-digit table of the code is a recoding of `6t+2` (without its leading one) -/
theorem chainValNaf_loop : chainValNaf Consts.SM9_LOOP_COUNT 1 = Consts.SM9_LOOP_N := by decide +kernel

theorem chainOKNaf_loop : chainOKBy nafNext Consts.SM9_LOOP_COUNT 1 = true := by decide +kernel

theorem loop_count_digits : ∀ d ∈ Consts.SM9_LOOP_COUNT, d = 0 ∨ d = 1 ∨ d = 2 := _root_.Sm9.loop_count_digits

/-- **the textbook Miller function of the SM9 R-ate pairing along the signed-digit chain** of
    `G2::miller_loop`, at `P = (xP, yP)`, `Q = (xQ, yQ)`:
    `f_{6t+2,Q}(P) · l_{[6t+2]Q, π(Q)}(P) · l_{[6t+2]Q + π(Q), −π²(Q)}(P)` -/
noncomputable def specMillerNaf (xP yP : Fq) (xQ yQ : Fq2) : Fq12 :=
  specTail (Jac.Wb b2) (lineAt xP yP) (twPt (frobTwist (xQ, yQ))) (twPt (frobTwist (frobTwist (xQ, yQ))))
    (specLoopNaf (Jac.Wb b2) (lineAt xP yP) (twPt (xQ, yQ)) Consts.SM9_LOOP_COUNT)

theorem specLoopNaf_point {F K : Type} [Field F] [DecidableEq F] [Mul K] [One K] (W : Affine F) (ℓ : F → F → F → K)
    (Q : W.Point) : (specLoopNaf W ℓ Q Consts.SM9_LOOP_COUNT).1 = Consts.SM9_LOOP_N • Q :=
  chainValNaf_loop ▸ foldl_specStepNaf_point W ℓ Q Consts.SM9_LOOP_COUNT (Q, 1) 1 Nat.one_pos (one_smul _ _).symm

end Miller
end Sm9
