import Sm9.Model.Api
/-!
# Kernel-checked facts about the constants extracted from the Rust source

Each statement is a closed term over `Sm9.Consts.*` (regenerated from `/repo/src` on
every run) evaluated by `decide +kernel`; a changed constant breaks it.
-/
namespace Sm9
open Consts

/-- the SM9 curve parameter -/
def tParam : Nat := 0x600000000058F98A

theorem S_eq : SM9_S = tParam := by decide +kernel
theorem q_poly : FQ = 36*tParam^4 + 36*tParam^3 + 24*tParam^2 + 6*tParam + 1 := by decide +kernel
theorem r_poly : FR = 36*tParam^4 + 36*tParam^3 + 18*tParam^2 + 6*tParam + 1 := by decide +kernel
theorem loopN_eq : SM9_LOOP_N = 6*tParam + 2 := by decide +kernel
theorem a3_eq : SM9_A3 = 6*tParam + 5 := by decide +kernel
theorem a2_eq : SM9_A2 = 6*tParam^2 + 1 := by decide +kernel
theorem nine_eq : SM9_NINE = 9 := by decide +kernel

/-- value of the signed-digit loop table: digit 1 = +1, digit 2 = −1, leading 1 implicit -/
def signedDigitsVal (ds : List Nat) : Int :=
  ds.foldl (fun acc d => 2 * acc + (if d = 1 then 1 else if d = 2 then -1 else 0)) 1

theorem loop_count_eval : signedDigitsVal SM9_LOOP_COUNT = (SM9_LOOP_N : Int) := by decide +kernel
theorem loop_count_digits : ∀ d ∈ SM9_LOOP_COUNT, d = 0 ∨ d = 1 ∨ d = 2 := by decide +kernel

theorem fq_inv_ok : (FQ * FQ_INV) % 2^64 = 2^64 - 1 := by decide +kernel
theorem fr_inv_ok : (FR * FR_INV) % 2^64 = 2^64 - 1 := by decide +kernel
theorem fq_one_ok : FQ_ONE = 2^256 % FQ := by decide +kernel
theorem fr_one_ok : FR_ONE = 2^256 % FR := by decide +kernel
theorem fq_squared_ok : FQ_SQUARED = 2^512 % FQ := by decide +kernel
theorem fr_squared_ok : FR_SQUARED = 2^512 % FR := by decide +kernel
theorem fq_range : 2^255 < FQ ∧ FQ < 2^256 ∧ FQ % 2 = 1 := by decide +kernel
theorem fr_range : 2^255 < FR ∧ FR < 2^256 ∧ FR % 2 = 1 := by decide +kernel
theorem fq_inv_lt : FQ_INV < 2^64 ∧ FR_INV < 2^64 := by decide +kernel
theorem q_mod_8 : FQ % 8 = 5 := by decide +kernel
theorem q_mod_12 : FQ % 12 = 1 := by decide +kernel

/-- every `Fq::new(*CONST).unwrap()` / `Fq::from_slice(&CONST).unwrap()` site of the
    crate is on a constant below q, so none of them can panic -/
theorem consts_lt_q :
    SM9_ALPHA1 < FQ ∧ SM9_ALPHA2 < FQ ∧ SM9_ALPHA3 < FQ ∧ SM9_ALPHA4 < FQ ∧ SM9_ALPHA5 < FQ ∧
    SM9_BETA < FQ ∧ SM9_PI1 < FQ ∧ SM9_PI2 < FQ ∧
    SM9_P1X < FQ ∧ SM9_P1Y < FQ ∧ SM9_P2X0 < FQ ∧ SM9_P2X1 < FQ ∧ SM9_P2Y0 < FQ ∧ SM9_P2Y1 < FQ := by
  decide +kernel

theorem minus1_div4_eq : Fq.minus1_div4 = (FQ - 1) / 4 := by decide +kernel
theorem minus5_div8_eq : Fq.minus5_div8 = (FQ - 5) / 8 := by decide +kernel

def nr : Fq := Fq.ofNat (FQ - 2)
theorem alpha1_eq : Fq4.alpha1 = nr.pow ((FQ - 1) / 12) := by decide +kernel
theorem alpha2_eq : Fq4.alpha2 = nr.pow ((FQ - 1) / 6) := by decide +kernel
theorem alpha3_eq : Fq4.alpha3 = nr.pow ((FQ - 1) / 4) := by decide +kernel
theorem alpha4_eq : Fq4.alpha4 = nr.pow ((FQ - 1) / 3) := by decide +kernel
theorem alpha5_eq : Fq4.alpha5 = nr.pow (5 * ((FQ - 1) / 12)) := by decide +kernel
theorem beta_eq : Fq4.beta = Fq4.alpha3 := by decide +kernel
theorem pi1_eq : pi1 = Fq4.alpha1 := by decide +kernel
theorem pi2_eq : pi2 = Fq4.alpha2 := by decide +kernel

theorem P1_on_curve : (G.one : G1).y.squared = (G.one : G1).x.squared * (G.one : G1).x + coeffB1 := by
  decide +kernel
theorem P2_on_twist :
    (G.one : G2).y.squared = (G.one : G2).x.squared * (G.one : G2).x + (GroupParams.coeff_b : Fq2) := by
  decide +kernel
theorem coeff_b1 : coeffB1 = Fq.ofNat 5 := by decide +kernel
theorem coeff_b2 : (GroupParams.coeff_b : Fq2) = Fq2.new 0 (Fq.ofNat 5) := by decide +kernel

end Sm9
