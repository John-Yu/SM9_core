import Sm9.Proofs.Tower
/-!
# Square-and-multiply is exponentiation (`FieldElement::pow`, `Fq::pow`); `inverse` is the power `p − 2`
-/
namespace Sm9

def bitsVal (bits : List Bool) : Nat := bits.foldl (fun n b => 2 * n + (if b then 1 else 0)) 0

theorem bitsVal_foldl (bits : List Bool) (n0 : Nat) :
    bits.foldl (fun n b => 2 * n + (if b then 1 else 0)) n0 = n0 * 2 ^ bits.length + bitsVal bits := by
  induction bits generalizing n0 with
  | nil => simp [bitsVal]
  | cons c cs ih =>
    simp only [List.foldl_cons, List.length_cons, bitsVal]
    rw [ih (2 * n0 + _), ih (2 * 0 + _)]
    ring

theorem bitsVal_cons (b : Bool) (bs : List Bool) :
    bitsVal (b :: bs) = (if b then 1 else 0) * 2 ^ bs.length + bitsVal bs := by
  simp only [bitsVal, List.foldl_cons]
  rw [bitsVal_foldl]
  simp [bitsVal]

theorem powFold_eq {M : Type} [CommMonoid M] (sq : M → M) (hsq : ∀ x, sq x = x * x) (g : M)
    (bits : List Bool) (acc : M) :
    bits.foldl (fun res i => let res := sq res; if i then res * g else res) acc
      = acc ^ (2 ^ bits.length) * g ^ bitsVal bits := by
  induction bits generalizing acc with
  | nil => simp [bitsVal]
  | cons b bs ih =>
    simp only [List.foldl_cons, List.length_cons]
    rw [ih, bitsVal_cons, hsq]
    cases b
    · simp only [Bool.false_eq_true, if_false, zero_mul, zero_add]
      rw [← pow_two, ← pow_mul, pow_succ]
      ring_nf
    · simp only [if_true, one_mul]
      rw [mul_pow, ← pow_two, ← pow_mul, mul_assoc, ← pow_add]
      congr 2
      rw [pow_succ]; ring

theorem bitsVal_bitsMSB (n : Nat) : bitsVal (bitsMSB n) = n := by
  unfold bitsMSB bitLen
  split
  · next h => subst h; simp [bitsVal]
  · next h =>
    have key : ∀ k, bitsVal ((List.range k).reverse.map fun i => n.testBit i) = n % 2 ^ k := by
      intro k
      induction k with
      | zero => simp [bitsVal, Nat.mod_one]
      | succ k ih =>
        rw [List.range_succ, List.reverse_append, List.map_append]
        simp only [List.reverse_cons, List.reverse_nil, List.nil_append, List.map_cons, List.map_nil,
          List.singleton_append]
        rw [bitsVal_cons, ih]
        simp only [List.length_map, List.length_reverse, List.length_range]
        rw [Nat.mod_pow_succ]
        rcases Nat.mod_two_eq_zero_or_one (n / 2 ^ k) with h0 | h1
        · have : n.testBit k = false := by simp [Nat.testBit, Nat.shiftRight_eq_div_pow, h0]
          rw [this, h0]; simp
        · have : n.testBit k = true := by simp [Nat.testBit, Nat.shiftRight_eq_div_pow, h1]
          rw [this, h1]; simp [Nat.add_comm]
    rw [key]
    apply Nat.mod_eq_of_lt
    exact Nat.lt_log2_self

theorem powFold_bitsMSB {M : Type} [CommMonoid M] (sq : M → M) (hsq : ∀ x, sq x = x * x) (g : M) (e : Nat) :
    (bitsMSB e).foldl (fun res i => let res := sq res; if i then res * g else res) 1 = g ^ e := by
  rw [powFold_eq sq hsq, one_pow, one_mul, bitsVal_bitsMSB]

/-- `Gt::pow` runs `FieldElement::pow` on Fq12 -/
theorem Fq12.pow_eq (g : Fq12) (e : Nat) : FieldElement.pow g e = g ^ e :=
  powFold_bitsMSB Fq12.squared Fq12.squared_eq_mul g e

theorem Fq.pow_eq (x : Fq) (e : Nat) : x.pow e = x ^ e := powFold_bitsMSB (fun x => x * x) (fun _ => rfl) x e

theorem Fr.pow_eq (x : Fr) (e : Nat) : x.pow e = x ^ e := powFold_bitsMSB (fun x => x * x) (fun _ => rfl) x e

theorem Fq.inverse_zero : (0 : Fq).inverse = none := by
  unfold Fq.inverse
  rw [if_pos ((Fq.is_zero_iff 0).2 rfl)]

theorem Fq.inverse_eq (x : Fq) (h : x ≠ 0) : x.inverse = some (x ^ (q - 2)) := by
  unfold Fq.inverse
  have : ¬ (x.is_zero = true) := fun h0 => h ((Fq.is_zero_iff x).1 h0)
  rw [if_neg this, Fq.pow_eq]

theorem Fq.inverse_correct (x : Fq) (h : x ≠ 0) : ∃ y, x.inverse = some y ∧ y * x = 1 :=
  ⟨_, Fq.inverse_eq x h, Fq.pow_sub_two_mul x h⟩

theorem Fq.inverse_eq_inv (x : Fq) (h : x ≠ 0) : x.inverse = some x⁻¹ := by
  rw [Fq.inverse_eq x h, eq_inv_of_mul_eq_one_left (Fq.pow_sub_two_mul x h)]

theorem Fr.inverse_zero : (0 : Fr).inverse = none := by
  unfold Fr.inverse
  rw [if_pos ((Fr.is_zero_iff 0).2 rfl)]

theorem Fr.inverse_eq (x : Fr) (h : x ≠ 0) : x.inverse = some (x ^ (r - 2)) := by
  unfold Fr.inverse
  have : ¬ (x.is_zero = true) := fun h0 => h ((Fr.is_zero_iff x).1 h0)
  rw [if_neg this, Fr.pow_eq]

theorem Fr.inverse_correct (x : Fr) (h : x ≠ 0) : ∃ y, x.inverse = some y ∧ y * x = 1 :=
  ⟨_, Fr.inverse_eq x h, Fr.pow_sub_two_mul x h⟩

end Sm9
