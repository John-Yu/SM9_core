import Sm9.Model.Mont
import Mathlib.Tactic.Ring
import Mathlib.Tactic.Linarith
import Mathlib.Data.Nat.ModEq
/-!
# Limb level refines value level: add / sub / double / halve / negate (u256.rs 106-149, 200-208)

For any modulus `m < 2²⁵⁶` and operands below `m`, the carry-aware conditional subtraction returns
the canonical representative of the exact integer result (`subtract_modulus_with_carry_eq`; the
`Big.*` lemmas are about a variable word size, so no literal of `2²⁵⁶` enters).  `add_refines`
and `div2_refines` also carry `W256 < 2 * m` of the SM9 range (`MontParams.Ok.gt`).
-/
namespace Sm9

namespace Big

theorem sub_with_borrow_of_le {w a b : Nat} (h : b ≤ a) (ha : a - b < w) :
    (sub_with_borrow w a b).1 = a - b := by
  rw [sub_with_borrow, Nat.sub_add_comm h, Nat.add_mod_right, Nat.mod_eq_of_lt ha]

theorem sub_with_borrow_of_lt {w a b : Nat} (hb : b ≤ w) (h : a < b) :
    (sub_with_borrow w a b).1 = a + w - b :=
  Nat.mod_eq_of_lt (by omega)

theorem add_with_carry_spec {w a b : Nat} (h : a + b < 2 * w) :
    a + b = if (add_with_carry w a b).2 then (add_with_carry w a b).1 + w
      else (add_with_carry w a b).1 := by
  simp only [add_with_carry, ge_iff_le, decide_eq_true_eq]
  split
  · next hc => rw [Nat.mod_eq_sub_mod hc, Nat.mod_eq_of_lt (by omega)]; omega
  · next hc => rw [Nat.mod_eq_of_lt (by omega)]

end Big

namespace U256

theorem W256_pos : 0 < W256 := Nat.pow_pos (by decide)

/-- the conditional subtraction maps `u < 2m`, given as a 256-bit word `a` and a carry flag worth
    `2^256`, to `u mod m` -/
theorem subtract_modulus_with_carry_eq (a m : Nat) (c : Bool) (u : Nat) (hm : m < W256)
    (hu : u < 2 * m) (h : u = if c then a + W256 else a) :
    subtract_modulus_with_carry a m c = u % m := by
  unfold subtract_modulus_with_carry
  cases c
  · simp only [Bool.false_or, decide_eq_true_eq, Bool.false_eq_true, if_false] at h ⊢
    subst h
    split
    · next h =>
      rw [Big.sub_with_borrow_of_le h (by omega), Nat.mod_eq_sub_mod h, Nat.mod_eq_of_lt (by omega)]
    · next h => rw [Nat.mod_eq_of_lt (by omega)]
  · simp only [Bool.true_or, if_true] at h ⊢
    subst h
    rw [Big.sub_with_borrow_of_lt hm.le (by omega), Nat.mod_eq_sub_mod (by omega),
      Nat.mod_eq_of_lt (by omega)]

theorem W256_eq : W256 = 115792089237316195423570985008687907853269984665640564039457584007913129639936 := by
  decide +kernel

theorem add_eq (a b m : Nat) (hm : m < W256) (ha : a < m) (hb : b < m) :
    add a b m = (a + b) % m :=
  subtract_modulus_with_carry_eq _ m _ (a + b) hm (by omega) (Big.add_with_carry_spec (by omega))

theorem add_refines (a b m : Nat) (hm : m < W256) (hm2 : W256 < 2 * m) (ha : a < m) (hb : b < m) :
    add a b m < m ∧ add a b m = (a + b) % m :=
  ⟨add_eq a b m hm ha hb ▸ Nat.mod_lt _ (Nat.zero_lt_of_lt ha), add_eq a b m hm ha hb⟩

theorem sub_spec (a b m : Nat) (hm : m < W256) (ha : a < m) (hb : b < m) :
    sub a b m = (if a < b then a + m - b else a - b) := by
  unfold sub
  split
  · next h =>
    have hs := Big.add_with_carry_spec (w := W256) (a := a) (b := m) (by omega)
    split at hs
    · rw [Big.sub_with_borrow_of_lt (by omega) (by omega)]; omega
    · rw [Big.sub_with_borrow_of_le (by omega) (by omega)]; omega
  · next h => exact Big.sub_with_borrow_of_le (by omega) (by omega)

theorem sub_refines (a b m : Nat) (hm : m < W256) (ha : a < m) (hb : b < m) :
    sub a b m < m ∧ (sub a b m + b) % m = a := by
  rw [sub_spec a b m hm ha hb]
  split
  · next h =>
    refine ⟨by omega, ?_⟩
    have : a + m - b + b = a + m := by omega
    rw [this, Nat.add_mod_right, Nat.mod_eq_of_lt ha]
  · next h =>
    refine ⟨by omega, ?_⟩
    have : a - b + b = a := by omega
    rw [this, Nat.mod_eq_of_lt ha]

theorem neg_spec (a m : Nat) (hm : m < W256) (ha : a < m) :
    neg a m = (if a = 0 then 0 else m - a) := by
  unfold neg
  by_cases h : a = 0
  · simp [h]
  · rw [if_pos (by simpa using h), if_neg h]
    exact Big.sub_with_borrow_of_le ha.le (by omega)

theorem neg_refines (a m : Nat) (hm : m < W256) (ha : a < m) :
    neg a m < m ∧ (neg a m + a) % m = 0 := by
  rw [neg_spec a m hm ha]
  split
  · next h => subst h; exact ⟨by omega, by simp⟩
  · next h =>
    refine ⟨by omega, ?_⟩
    have : m - a + a = m := by omega
    rw [this, Nat.mod_self]

theorem mul2_eq (a m : Nat) (hm : m < W256) (ha : a < m) : mul2 a m = (2 * a) % m := by
  rw [two_mul, ← add_eq a a m hm ha ha]; simp only [mul2, Big.mul2, two_mul]; rfl

theorem mul2_refines (a m : Nat) (hm : m < W256) (ha : a < m) :
    mul2 a m < m ∧ mul2 a m = (2 * a) % m :=
  ⟨mul2_eq a m hm ha ▸ Nat.mod_lt _ (Nat.zero_lt_of_lt ha), mul2_eq a m hm ha⟩

theorem even_or_bit (e b : Nat) (he : e % 2 = 0) (hb : b < 2) : e ||| b = e + b := by
  have h1 : (e ||| b) / 2 = e / 2 := by
    rw [Nat.or_div_two]
    have : b / 2 = 0 := by omega
    rw [this, Nat.or_zero]
  have h2 : (e ||| b) % 2 = b := by
    have := @Nat.or_mod_two_pow e b 1
    simp only [pow_one] at this
    rw [this, he, Nat.zero_or]; omega
  omega

theorem or_two_pow_255 (x : Nat) (hx : x < 2 ^ 255) : x ||| (1 <<< 255) = x + 2 ^ 255 := by
  rw [Nat.one_shiftLeft, Nat.or_comm, add_comm, ← Nat.two_pow_add_eq_or_of_lt hx 1, mul_one]

/-- `div2` computes `b/2` for even `b` and `(b+m)/2` for odd `b`: a carry of `b + m` comes back
    as bit 255 after the shift, and the final subtraction never fires -/
theorem div2_spec (b m : Nat) (hm : m < W256) (hodd : m % 2 = 1) (hb : b < m) :
    div2 b m = (if b % 2 = 1 then (b + m) / 2 else b / 2) := by
  unfold div2 Big.is_odd Big.div2
  by_cases h : b % 2 = 1
  · have hs := Big.add_with_carry_spec (w := W256) (a := b) (b := m) (by omega)
    have hlt : (Big.add_with_carry W256 b m).1 < W256 := Nat.mod_lt _ W256_pos
    have hW : W256 = 2 * 2 ^ 255 := rfl
    simp only [h, beq_self_eq_true, if_true]
    generalize Big.add_with_carry W256 b m = sc at hs hlt ⊢
    obtain ⟨s, c⟩ := sc
    cases c
    · simp only [Bool.false_eq_true, if_false] at hs ⊢; rw [hs]
    · simp only [if_true] at hs hlt ⊢
      rw [set_bit, if_neg (by decide), if_pos rfl, or_two_pow_255 _ (by omega)]
      rw [subtract_modulus_with_carry_eq _ m false (s / 2 + 2 ^ 255) hm (by omega) rfl,
        Nat.mod_eq_of_lt (by omega)]
      omega
  · simp [h]

theorem div2_refines (b m : Nat) (hm : m < W256) (hm2 : W256 < 2 * m) (hodd : m % 2 = 1)
    (hb : b < m) : div2 b m < m ∧ (2 * div2 b m) % m = b := by
  rw [div2_spec b m hm hodd hb]
  split
  · next h =>
    refine ⟨by omega, ?_⟩
    have : 2 * ((b + m) / 2) = b + m := by omega
    rw [this, Nat.add_mod_right, Nat.mod_eq_of_lt hb]
  · next h =>
    refine ⟨by omega, ?_⟩
    have : 2 * (b / 2) = b := by omega
    rw [this, Nat.mod_eq_of_lt hb]

end U256
end Sm9
