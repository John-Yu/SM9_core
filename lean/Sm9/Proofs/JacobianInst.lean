import Sm9.Proofs.Jacobian
import Sm9.Proofs.TowerField
/-!
# The generic Jacobian theorems, instantiated at the model's own `FieldElement Fq`

`fe_Fq_eq`: the model's instance (value-level `Fq.squared`, `Fq.inverse` by Fermat power,
`Fq.is_zero` on the canonical value, …) *is* the structure induced by the field.  Side
conditions of the group-law theorems for E : y² = x³ + 5 over Fq: 2 ≠ 0, and −5 is not a
cube (no point with y = 0), by one kernel evaluation plus Fermat.
-/
namespace Sm9
open WeierstrassCurve

theorem fe_Fq_eq : (Sm9.Fq.instFieldElement : FieldElement Fq) = Jac.feOfField Fq := by
  unfold Sm9.Fq.instFieldElement Jac.feOfField
  congr 1
  · funext x; exact Fq.inverse_ite x
  · funext x
    rw [Bool.eq_iff_iff, Fq.is_zero_iff, decide_eq_true_eq]

def b1 : Fq := coeffB1

theorem Fq.q_sub_one_third : 3 * ((q - 1) / 3) = q - 1 := by decide +kernel

/-- −5 is not a cube in Fq: E(Fq) has no point with y = 0 -/
theorem Fq.no_two_torsion (x : Fq) : x ^ 3 + b1 ≠ 0 := fun h =>
  not_pow_of_pow_div_ne_one Fq.fermat Fq.q_sub_one_third three_ne_zero (g := -b1) (by decide +kernel)
    (by rw [← Fq.pow_eq]; decide +kernel) x (eq_neg_of_add_eq_zero_left h)

theorem G1.is_zero_iff (p : G1) : p.is_zero = true ↔ p.z = 0 := Fq.is_zero_iff p.z

namespace G1
/-- validity of a G1 value: the identity (z = 0) or a point of E : y² = x³ + 5 -/
abbrev Valid (P : G1) : Prop := Jac.Valid b1 P
/-- the group element a G1 value denotes, in Mathlib's `WeierstrassCurve.Affine.Point` -/
noncomputable abbrev toAff (P : G1) := Jac.toAff b1 P

theorem toAff_zero (P : G1) (h : P.z = 0) : toAff P = 0 := Jac.toAff_zero b1 P h
theorem toAff_some (P : G1) (hz : P.z ≠ 0) (hn : (Jac.Wb b1).Nonsingular (P.x / P.z ^ 2) (P.y / P.z ^ 3)) :
    toAff P = .some _ _ hn := Jac.toAff_some b1 P hz hn

/-! The generic theorems hold of the model's own operations: `fe_Fq_eq ▸` rewrites the instance (as the outermost term: the
    expected type drives the rewrite). -/

theorem add_correct (P Q : G1) (hP : Valid P) (hQ : Valid Q) : toAff (P.add Q) = toAff P + toAff Q :=
  fe_Fq_eq ▸ Jac.add_correct b1 Fq.two_ne_zero Fq.no_two_torsion P Q hP hQ
theorem add_valid (P Q : G1) (hP : Valid P) (hQ : Valid Q) : Valid (P.add Q) :=
  fe_Fq_eq ▸ Jac.add_valid b1 Fq.two_ne_zero Fq.no_two_torsion P Q hP hQ
theorem neg_correct (P : G1) (hP : Valid P) : toAff P.neg = -toAff P :=
  fe_Fq_eq ▸ Jac.neg_correct b1 P hP
theorem neg_valid (P : G1) (hP : Valid P) : Valid P.neg :=
  fe_Fq_eq ▸ Jac.neg_valid b1 P hP
theorem sub_correct (P Q : G1) (hP : Valid P) (hQ : Valid Q) : toAff (P.sub Q) = toAff P - toAff Q :=
  fe_Fq_eq ▸ Jac.sub_correct b1 Fq.two_ne_zero Fq.no_two_torsion P Q hP hQ
theorem double_correct (P : G1) (hP : Valid P) : toAff P.double = toAff P + toAff P :=
  fe_Fq_eq ▸ Jac.double_correct b1 Fq.two_ne_zero P hP
theorem mul_correct (P : G1) (hP : Valid P) (k : Fr) : toAff (P.mul k) = k.val • toAff P :=
  fe_Fq_eq ▸ Jac.mul_correct b1 Fq.two_ne_zero Fq.no_two_torsion P hP k
theorem mul_valid (P : G1) (hP : Valid P) (k : Fr) : Valid (P.mul k) :=
  fe_Fq_eq ▸ Jac.mul_valid b1 Fq.two_ne_zero Fq.no_two_torsion P hP k
theorem neg_one_mul_add (P : G1) (hP : Valid P) : toAff ((P.mul (-1)).add P) = r • toAff P :=
  fe_Fq_eq ▸ Jac.neg_one_mul_add b1 Fq.two_ne_zero Fq.no_two_torsion P hP
theorem eq_zero_iff (P O : G1) (hO : O.z = 0) : P.eq O = true ↔ P.z = 0 := fe_Fq_eq ▸ Jac.eq_zero_iff P O hO
theorem eq_iff (P Q : G1) (hP : Valid P) (hQ : Valid Q) : P.eq Q = true ↔ toAff P = toAff Q :=
  fe_Fq_eq ▸ Jac.eq_iff b1 P Q hP hQ
theorem to_affine_spec (P : G1) :
    P.to_affine = if P.z = 0 then none else some ⟨P.x / P.z ^ 2, P.y / P.z ^ 3⟩ :=
  fe_Fq_eq ▸ Jac.to_affine_spec (F := Fq) P
theorem normalize_of_z_ne (P : G1) (hz : P.z ≠ 0) :
    Api.normalize P = { x := P.x / P.z ^ 2, y := P.y / P.z ^ 3, z := 1 } := by
  unfold Api.normalize
  rw [to_affine_spec, if_neg hz]
  rfl
theorem to_affine_eq_none_iff (P : G1) : P.to_affine = none ↔ P.z = 0 := fe_Fq_eq ▸ Jac.to_affine_eq_none_iff P
theorem to_affine_congr (P Q : G1) (hP : Valid P) (hQ : Valid Q) (h : toAff P = toAff Q) :
    P.to_affine = Q.to_affine :=
  fe_Fq_eq ▸ Jac.to_affine_congr b1 P Q hP hQ h
theorem normalize_spec (P : G1) (hP : Valid P) :
    toAff (Api.normalize P) = toAff P ∧ (P.z ≠ 0 → (Api.normalize P).z = 1) ∧
    (P.z = 0 → Api.normalize P = P) ∧ Valid (Api.normalize P) :=
  fe_Fq_eq ▸ Jac.normalize_spec b1 P hP

theorem one_valid : Valid (G.one : G1) :=
  Jac.valid_of_equation b1 Fq.two_ne_zero Fq.no_two_torsion _ _
    (by have h := P1_on_curve; rwa [Fq.squared_def, Fq.squared_def] at h)

theorem one_order : r • toAff (G.one : G1) = 0 := by
  have hz : (((G.one : G1).mul (-(1 : Fr))).add G.one).z = 0 := by decide +kernel
  rw [← neg_one_mul_add _ one_valid, toAff_zero _ hz]

theorem toAff_one_ne_zero : toAff (G.one : G1) ≠ 0 :=
  fun h => one_ne_zero ((Jac.toAff_eq_zero_iff one_valid).1 h)

end G1

theorem G1.add_zero_right (a b : G1) (ha : a.z ≠ 0) (h : b.z = 0) : a.add b = a :=
  fe_Fq_eq ▸ Jac.add_zero_right a b ha h
theorem G1.neg_neg (p : G1) : p.neg.neg = p := fe_Fq_eq ▸ Jac.neg_neg p

theorem AffineG.new_g1 (x y : Fq) :
    (AffineG.new x y : Except GroupError AffineG1) =
      if y * y = x * x * x + b1 then .ok ⟨x, y⟩ else .error GroupError.NotOnCurve := by
  have hc : GroupParams.check_order Fq = false := rfl
  have hb : FieldElement.beq (FieldElement.squared y) (FieldElement.squared x * x + GroupParams.coeff_b) = true
      ↔ y * y = x * x * x + b1 := Fq.beq_iff _ _
  simp only [AffineG.new, hc, hb, Bool.false_eq_true, if_false]

end Sm9
