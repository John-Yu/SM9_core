import Sm9.Proofs.JacobianInst
import Sm9.Proofs.TowerField
/-!
# The generic Jacobian theorems, instantiated at the model's own `FieldElement Fq2` (G2)

Twist E′ : y² = x³ + 5u over Fq2.  Side conditions: 2 ≠ 0 in Fq2; −5u is not a cube in
Fq2 (one kernel evaluation of (−5u)^((q²−1)/3) plus x^(q²−1) = 1), so E′ has no point
with y = 0.
-/
namespace Sm9
open WeierstrassCurve

theorem fe_Fq2_eq : (Sm9.Fq2.instFieldElement : FieldElement Fq2) = Jac.feOfField Fq2 := by
  unfold Sm9.Fq2.instFieldElement Jac.feOfField
  congr 1
  · funext x; exact Fq2.squared_eq_mul x
  · funext x; exact Fq2.inverse_ite x
  · funext x
    rw [Bool.eq_iff_iff, Fq2.is_zero_iff, decide_eq_true_eq]

theorem Fq2.one_ne_zero_fq2 : (1 : Fq2) ≠ 0 := one_ne_zero

theorem Fq2.two_ne_zero : (2 : Fq2) ≠ 0 := by
  intro h
  have : (2 : Fq2).c0 = (0 : Fq2).c0 := by rw [h]
  revert this
  decide +kernel

/-- the twist coefficient 5u -/
def b2 : Fq2 := GroupParams.coeff_b

theorem b2_ne_zero : b2 ≠ 0 := by decide +kernel

theorem Fq2.card_sub_one_third : 3 * ((q ^ 2 - 1) / 3) = q ^ 2 - 1 := by decide +kernel

/-- −5u is not a cube in Fq2: E′(Fq2) has no point with y = 0 -/
theorem Fq2.no_two_torsion (x : Fq2) : x ^ 3 + b2 ≠ 0 := fun h =>
  not_pow_of_pow_div_ne_one Fq2.pow_card_sub_one Fq2.card_sub_one_third three_ne_zero (neg_ne_zero.2 b2_ne_zero)
    (by rw [← Fq2.pow_eq]; decide +kernel) x (eq_neg_of_add_eq_zero_left h)

/-- 5u is not a square in Fq2: E′(Fq2) has no point with x = 0 -/
theorem Miller.b2_not_sq (y : Fq2) : y * y ≠ b2 := by
  rw [← pow_two]
  exact not_pow_of_pow_div_ne_one Fq2.pow_card_sub_one Fq2.card_sub_one_half two_ne_zero b2_ne_zero
    (by rw [← Fq2.pow_eq]; decide +kernel) y

theorem Miller.twist_x_ne_zero {x y : Fq2} (h : (Jac.Wb b2).Nonsingular x y) : x ≠ 0 := by
  rintro rfl
  exact Miller.b2_not_sq y (by linear_combination ((Jac.nonsingular_iff b2 _ _).1 h).1)

theorem Miller.twist_y_ne_zero {x y : Fq2} (h : (Jac.Wb b2).Nonsingular x y) : y ≠ 0 :=
  Jac.y_ne_zero_of_equation Fq2.no_two_torsion (Jac.ns_equation h)

theorem G2.is_zero_iff (p : G2) : p.is_zero = true ↔ p.z = 0 := Fq2.is_zero_iff p.z

theorem G2.one_on_twist :
    (G.one : G2).y * (G.one : G2).y = (G.one : G2).x * (G.one : G2).x * (G.one : G2).x + b2 := by
  have h := P2_on_twist
  rwa [Fq2.squared_eq_mul, Fq2.squared_eq_mul] at h

namespace G2
abbrev Valid (P : G2) : Prop := Jac.Valid b2 P
noncomputable abbrev toAff (P : G2) := Jac.toAff b2 P

theorem toAff_zero (P : G2) (h : P.z = 0) : toAff P = 0 := Jac.toAff_zero b2 P h
theorem toAff_some (P : G2) (hz : P.z ≠ 0) (hn : (Jac.Wb b2).Nonsingular (P.x / P.z ^ 2) (P.y / P.z ^ 3)) :
    toAff P = .some _ _ hn := Jac.toAff_some b2 P hz hn

theorem add_correct (P Q : G2) (hP : Valid P) (hQ : Valid Q) : toAff (P.add Q) = toAff P + toAff Q :=
  fe_Fq2_eq ▸ Jac.add_correct b2 Fq2.two_ne_zero Fq2.no_two_torsion P Q hP hQ
theorem add_valid (P Q : G2) (hP : Valid P) (hQ : Valid Q) : Valid (P.add Q) :=
  fe_Fq2_eq ▸ Jac.add_valid b2 Fq2.two_ne_zero Fq2.no_two_torsion P Q hP hQ
theorem neg_correct (P : G2) (hP : Valid P) : toAff P.neg = -toAff P :=
  fe_Fq2_eq ▸ Jac.neg_correct b2 P hP
theorem neg_valid (P : G2) (hP : Valid P) : Valid P.neg :=
  fe_Fq2_eq ▸ Jac.neg_valid b2 P hP
theorem sub_correct (P Q : G2) (hP : Valid P) (hQ : Valid Q) : toAff (P.sub Q) = toAff P - toAff Q :=
  fe_Fq2_eq ▸ Jac.sub_correct b2 Fq2.two_ne_zero Fq2.no_two_torsion P Q hP hQ
theorem double_correct (P : G2) (hP : Valid P) : toAff P.double = toAff P + toAff P :=
  fe_Fq2_eq ▸ Jac.double_correct b2 Fq2.two_ne_zero P hP
theorem mul_correct (P : G2) (hP : Valid P) (k : Fr) : toAff (P.mul k) = k.val • toAff P :=
  fe_Fq2_eq ▸ Jac.mul_correct b2 Fq2.two_ne_zero Fq2.no_two_torsion P hP k
theorem mul_valid (P : G2) (hP : Valid P) (k : Fr) : Valid (P.mul k) :=
  fe_Fq2_eq ▸ Jac.mul_valid b2 Fq2.two_ne_zero Fq2.no_two_torsion P hP k
theorem neg_one_mul_add (P : G2) (hP : Valid P) : toAff ((P.mul (-1)).add P) = r • toAff P :=
  fe_Fq2_eq ▸ Jac.neg_one_mul_add b2 Fq2.two_ne_zero Fq2.no_two_torsion P hP
theorem eq_iff (P Q : G2) (hP : Valid P) (hQ : Valid Q) : P.eq Q = true ↔ toAff P = toAff Q :=
  fe_Fq2_eq ▸ Jac.eq_iff b2 P Q hP hQ
theorem to_affine_spec (P : G2) :
    P.to_affine = if P.z = 0 then none else some ⟨P.x / P.z ^ 2, P.y / P.z ^ 3⟩ :=
  fe_Fq2_eq ▸ Jac.to_affine_spec (F := Fq2) P
theorem normalize_of_z_ne (P : G2) (hz : P.z ≠ 0) :
    Api.normalize P = { x := P.x / P.z ^ 2, y := P.y / P.z ^ 3, z := 1 } := by
  unfold Api.normalize
  rw [to_affine_spec, if_neg hz]
  rfl
theorem to_affine_eq_none_iff (P : G2) : P.to_affine = none ↔ P.z = 0 := fe_Fq2_eq ▸ Jac.to_affine_eq_none_iff P
theorem to_affine_congr (P Q : G2) (hP : Valid P) (hQ : Valid Q) (h : toAff P = toAff Q) :
    P.to_affine = Q.to_affine :=
  fe_Fq2_eq ▸ Jac.to_affine_congr b2 P Q hP hQ h
theorem normalize_spec (P : G2) (hP : Valid P) :
    toAff (Api.normalize P) = toAff P ∧ (P.z ≠ 0 → (Api.normalize P).z = 1) ∧
    (P.z = 0 → Api.normalize P = P) ∧ Valid (Api.normalize P) :=
  fe_Fq2_eq ▸ Jac.normalize_spec b2 P hP

theorem valid_of_equation (x y : Fq2) (h : y * y = x * x * x + b2) : Valid ({ x := x, y := y, z := 1 } : G2) :=
  Jac.valid_of_equation b2 Fq2.two_ne_zero Fq2.no_two_torsion x y h

theorem one_valid : Valid (G.one : G2) := valid_of_equation _ _ G2.one_on_twist

/-- the one kernel evaluation of the order of the generator of G2 -/
theorem one_order_test : (((G.one : G2).mul (-(1 : Fr))).add G.one).z = 0 := by decide +kernel

theorem one_order : r • toAff (G.one : G2) = 0 := by
  rw [← neg_one_mul_add _ one_valid, toAff_zero _ one_order_test]

theorem one_z_ne_zero : (G.one : G2).z ≠ 0 := one_ne_zero

theorem toAff_one_ne_zero : toAff (G.one : G2) ≠ 0 :=
  fun h => one_z_ne_zero ((Jac.toAff_eq_zero_iff one_valid).1 h)

end G2

/-- the subgroup test of `AffineG2::new`, `(p·(r−1)) + p == O`, is `r • P = 0` -/
theorem G2.subgroup_test_iff (x y : Fq2) (h : y * y = x * x * x + b2) :
    G.eq ((({ x := x, y := y, z := 1 } : G2).mul (-(1 : Fr))).add { x := x, y := y, z := 1 }) G.zero = true
      ↔ r • G2.toAff { x := x, y := y, z := 1 } = 0 := by
  have hv := G2.valid_of_equation x y h
  rw [G2.eq_iff _ _ (G2.add_valid _ _ (G2.mul_valid _ hv _) hv) (Or.inl rfl), G2.neg_one_mul_add _ hv,
    G2.toAff_zero (G.zero : G2) rfl]

open Classical in
theorem AffineG.new_g2 (x y : Fq2) :
    (AffineG.new x y : Except GroupError AffineG2) =
      if y * y = x * x * x + b2 then
        if r • G2.toAff { x := x, y := y, z := 1 } = 0 then .ok ⟨x, y⟩ else .error GroupError.NotInSubgroup
      else .error GroupError.NotOnCurve := by
  have hc : GroupParams.check_order Fq2 = true := rfl
  have hb : FieldElement.beq (FieldElement.squared y) (FieldElement.squared x * x + GroupParams.coeff_b) = true
      ↔ y * y = x * x * x + b2 := by
    rw [Fq2.beq_iff]
    show y.squared = x.squared * x + b2 ↔ _
    rw [Fq2.squared_eq_mul, Fq2.squared_eq_mul]
  simp only [AffineG.new, hc, hb, if_true]
  by_cases h : y * y = x * x * x + b2
  · rw [if_pos h, if_pos h]
    by_cases ht : r • G2.toAff { x := x, y := y, z := 1 } = 0
    · rw [if_pos ht, if_neg (by rw [(G2.subgroup_test_iff x y h).2 ht]; decide)]
    · rw [if_neg ht, if_pos (by rw [Bool.eq_false_iff.2 (mt (G2.subgroup_test_iff x y h).1 ht)]; decide)]
  · rw [if_neg h, if_neg h]

end Sm9
