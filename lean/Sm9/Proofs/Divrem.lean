import Sm9.Model.Mont
import Sm9.Proofs.MontBasic
import Mathlib.Tactic.Ring
import Mathlib.Tactic.Linarith
/-!
# `U512::divrem` (u512.rs): the bitwise long division is Euclidean division

Loop invariant (`Inv`), after the iteration for bit index `i` (bits are processed from the top):
with `N = n / 2^i` (the bits of `n` at index `≥ i`), `r = N % m` and
`q = Some (2^i · (N / m))` if that number fits 256 bits, `None` otherwise (a quotient bit of index
`≥ 256` was needed).  The carry out of `r.mul2()` is modelled exactly: `2r + bit` may exceed
`2^256` when `m > 2^255`, and the code then subtracts `m` modulo `2^256`, which is exact.
-/

namespace Sm9
namespace U512

theorem W256_pow : W256 = 2 ^ 256 := rfl

theorem set_bit0_even (x : Nat) (b : Bool) (hx : x < W256) (he : x % 2 = 0) :
    (U256.set_bit x 0 b).1 = x + b.toNat := by
  unfold U256.set_bit
  rw [if_neg (by omega)]
  cases b
  · simp only [Bool.false_eq_true, if_false, Nat.one_shiftLeft, pow_zero, Bool.toNat_false, add_zero]
    -- x &&& (W256 - 2) = x
    have hW : W256 = 2 * 2 ^ 255 := rfl
    have h2 : W256 - 1 - 1 = 2 * (2 ^ 255 - 1) := by omega
    have hd : (x &&& (W256 - 1 - 1)) / 2 = x / 2 := by
      rw [Nat.and_div_two, h2, Nat.mul_div_cancel_left _ (by decide : 0 < 2),
        Nat.and_two_pow_sub_one_eq_mod]
      exact Nat.mod_eq_of_lt (Nat.div_lt_of_lt_mul (hW ▸ hx))
    have hm : (x &&& (W256 - 1 - 1)) % 2 = 0 := by
      have := @Nat.and_mod_two_pow x (W256 - 1 - 1) 1
      rw [pow_one] at this
      rw [this, he, Nat.zero_and]
    omega
  · simp only [if_true, Nat.one_shiftLeft, pow_zero, Bool.toNat_true]
    exact U256.even_or_bit x 1 he (by decide)

theorem set_bit_true_lt (qv i : Nat) (hi : i < 256) :
    U256.set_bit qv i true = (qv ||| 2 ^ i, true) := by
  unfold U256.set_bit
  rw [if_neg (by omega)]
  simp [Nat.one_shiftLeft]

theorem set_bit_ge (qv i : Nat) (b : Bool) (hi : 256 ≤ i) :
    U256.set_bit qv i b = (qv, false) := by
  unfold U256.set_bit
  rw [if_pos hi]

theorem setq_eq (q : Option Nat) (i : Nat) :
    (match q with
      | none => none
      | some qv => if (U256.set_bit qv i true).2 = true then some (U256.set_bit qv i true).1 else none)
    = (match q with
      | none => none
      | some qv => if i < 256 then some (qv ||| 2 ^ i) else none) := by
  cases q with
  | none => rfl
  | some qv =>
    by_cases hi : i < 256
    · simp only [set_bit_true_lt qv i hi, if_true, hi]
    · simp only [set_bit_ge qv i true (by omega), hi, if_false]; rfl

theorem divStep_eq (n m r i : Nat) (q : Option Nat) (hm : m < W256) (hr : r < m) :
    divStep n m (q, r) i =
      (if m ≤ 2 * r + (n.testBit i).toNat then
        (match q with
          | none => none
          | some qv => if i < 256 then some (qv ||| 2 ^ i) else none,
         2 * r + (n.testBit i).toNat - m)
       else (q, 2 * r + (n.testBit i).toNat)) := by
  have hb : (n.testBit i).toNat < 2 := Bool.toNat_lt _
  generalize hbb : n.testBit i = b at hb
  have hlt : (2 * r) % W256 < W256 := Nat.mod_lt _ U256.W256_pos
  have hev : (2 * r) % W256 % 2 = 0 := by
    rw [Nat.mod_mod_of_dvd _ (⟨2 ^ 255, rfl⟩ : 2 ∣ W256), Nat.mul_mod_right]
  unfold divStep
  simp only [Big.mul2, Big.get_bit, hbb, set_bit0_even _ b hlt hev]
  by_cases hc : W256 ≤ 2 * r
  · -- the doubling overflows: `2r mod 2²⁵⁶ = 2r − 2²⁵⁶`, and the subtraction modulo 2²⁵⁶ is exact
    have hs : (2 * r) % W256 = 2 * r - W256 := by
      rw [Nat.mod_eq_sub_mod hc, Nat.mod_eq_of_lt (by omega)]
    rw [hs, if_pos (by simp [hc]), if_pos (by omega), Big.sub_with_borrow,
      show 2 * r - W256 + b.toNat + W256 - m = 2 * r + b.toNat - m by omega, Nat.mod_eq_of_lt (by omega)]
    exact congrArg (·, _) (setq_eq q i)
  · rw [Nat.mod_eq_of_lt (by omega)]
    by_cases h1 : m ≤ 2 * r + b.toNat
    · rw [if_pos (by simp [h1]), if_pos h1, Big.sub_with_borrow_of_le h1 (by omega)]
      exact congrArg (·, _) (setq_eq q i)
    · rw [if_neg (by simp [h1, hc]), if_neg h1]

theorem step_arith (N m b : Nat) (hm : 0 < m) (hb : b < 2) :
    (2 * N + b) % m = (if m ≤ 2 * (N % m) + b then 2 * (N % m) + b - m else 2 * (N % m) + b) ∧
    (2 * N + b) / m = 2 * (N / m) + (if m ≤ 2 * (N % m) + b then 1 else 0) := by
  have hdm := Nat.div_add_mod N m
  have hr := Nat.mod_lt N hm
  generalize N % m = r at *
  generalize hQ : N / m = Q at *
  have := (Nat.div_mod_unique (a := 2 * N + b) (d := 2 * Q + (if m ≤ 2 * r + b then 1 else 0))
    (c := (if m ≤ 2 * r + b then 2 * r + b - m else 2 * r + b)) hm).mpr ?_
  · exact ⟨this.2, this.1⟩
  · split
    · next h =>
      have e : m * (2 * Q + 1) = 2 * (m * Q) + m := by ring
      rw [e]
      omega
    · next h =>
      have e : m * (2 * Q + 0) = 2 * (m * Q) := by ring
      rw [e]
      omega

theorem shift_step (n i : Nat) : n / 2 ^ i = 2 * (n / 2 ^ (i + 1)) + (n.testBit i).toNat := by
  have h1 : n / 2 ^ (i + 1) = n / 2 ^ i / 2 := by rw [pow_succ, Nat.div_div_eq_div_mul]
  have h2 : (n.testBit i).toNat = n / 2 ^ i % 2 := by
    rw [Nat.testBit_eq_decide_div_mod_eq]
    have : n / 2 ^ i % 2 < 2 := Nat.mod_lt _ (by decide)
    by_cases h : n / 2 ^ i % 2 = 1
    · simp [h]
    · have : n / 2 ^ i % 2 = 0 := by omega
      simp [this]
  rw [h1, h2]
  omega

def Inv (n m : Nat) (st : Option Nat × Nat) (i : Nat) : Prop :=
  st.2 = (n / 2 ^ i) % m ∧
  st.1 = (if 2 ^ i * (n / 2 ^ i / m) < W256 then some (2 ^ i * (n / 2 ^ i / m)) else none)

theorem inv_step (n m i : Nat) (st : Option Nat × Nat) (hm0 : 0 < m) (hm : m < W256)
    (h : Inv n m st (i + 1)) : Inv n m (divStep n m st i) i := by
  obtain ⟨q, r⟩ := st
  obtain ⟨hr, hq⟩ := h
  simp only at hr hq
  have hrm : r < m := by rw [hr]; exact Nat.mod_lt _ hm0
  rw [divStep_eq n m r i q hm hrm]
  have hb : (n.testBit i).toNat < 2 := Bool.toNat_lt _
  have hsh := shift_step n i
  obtain ⟨a1, a2⟩ := step_arith (n / 2 ^ (i + 1)) m (n.testBit i).toNat hm0 hb
  rw [← hsh, ← hr] at a1 a2
  generalize (n.testBit i).toNat = b at *
  generalize n / 2 ^ (i + 1) / m = Q' at *
  have hpow : 2 ^ (i + 1) * Q' = 2 ^ i * (2 * Q') := by rw [pow_succ]; ring
  unfold Inv
  rw [a1, a2]
  by_cases hc : m ≤ 2 * r + b
  · simp only [hc, if_true, true_and]
    have hval : 2 ^ i * (2 * Q' + 1) = 2 ^ (i + 1) * Q' + 2 ^ i := by rw [pow_succ]; ring
    rw [hval, hq]
    by_cases hlt : 2 ^ (i + 1) * Q' < W256
    · simp only [hlt, if_true]
      by_cases hi : i < 256
      · simp only [hi, if_true]
        have hor : 2 ^ (i + 1) * Q' ||| 2 ^ i = 2 ^ (i + 1) * Q' + 2 ^ i :=
          (Nat.two_pow_add_eq_or_of_lt (Nat.pow_lt_pow_right (by decide) (Nat.lt_succ_self i)) Q').symm
        rw [hor]
        -- no overflow: a multiple of 2^(i+1) below 2^256 is at most 2^256 - 2^(i+1)
        have hfit : 2 ^ (i + 1) * Q' + 2 ^ i < W256 := by
          have hW : W256 = 2 ^ (i + 1) * 2 ^ (255 - i) := by
            rw [W256_pow, ← pow_add]; congr 1; omega
          rw [hW] at hlt ⊢
          have hQ : Q' < 2 ^ (255 - i) := Nat.lt_of_mul_lt_mul_left hlt
          have h1 : 2 ^ (i + 1) * (Q' + 1) ≤ 2 ^ (i + 1) * 2 ^ (255 - i) :=
            Nat.mul_le_mul_left _ hQ
          have h2 : 2 ^ i < 2 ^ (i + 1) := Nat.pow_lt_pow_right (by decide) (Nat.lt_succ_self i)
          have h3 : 2 ^ (i + 1) * (Q' + 1) = 2 ^ (i + 1) * Q' + 2 ^ (i + 1) := by ring
          omega
        rw [if_pos hfit]
      · simp only [hi, if_false]
        have hbig : ¬ 2 ^ (i + 1) * Q' + 2 ^ i < W256 := by
          have : W256 ≤ 2 ^ i := by
            rw [W256_pow]; exact Nat.pow_le_pow_right (by decide) (by omega)
          omega
        rw [if_neg hbig]
    · simp only [hlt, if_false]
      have hbig : ¬ 2 ^ (i + 1) * Q' + 2 ^ i < W256 :=
        fun h => hlt (lt_of_le_of_lt (Nat.le_add_right _ _) h)
      rw [if_neg hbig]
  · simp only [hc, if_false, true_and, add_zero]
    rw [hq, hpow]

theorem inv_fold (n m : Nat) (hm0 : 0 < m) (hm : m < W256) :
    ∀ (k : Nat) (st : Option Nat × Nat), Inv n m st k →
      Inv n m ((List.range k).reverse.foldl (divStep n m) st) 0 := by
  intro k
  induction k with
  | zero => intro st h; simpa using h
  | succ k ih =>
    intro st h
    rw [List.range_succ, List.reverse_append, List.reverse_singleton, List.singleton_append,
      List.foldl_cons]
    exact ih _ (inv_step n m k st hm0 hm h)

theorem lt_two_pow_bitLen (n : Nat) : n < 2 ^ bitLen n := by
  unfold bitLen
  split
  · next h => subst h; decide
  · exact Nat.lt_log2_self

theorem inv_init (n m : Nat) : Inv n m (some 0, 0) (Big.num_bits n) := by
  have h : n / 2 ^ Big.num_bits n = 0 := Nat.div_eq_of_lt (lt_two_pow_bitLen n)
  unfold Inv
  rw [h]
  simp [W256_pow]

theorem loop_spec (n m : Nat) (hm0 : 0 < m) (hm : m < W256) :
    (List.range (Big.num_bits n)).reverse.foldl (divStep n m) (some 0, 0)
      = (if n / m < W256 then some (n / m) else none, n % m) := by
  have := inv_fold n m hm0 hm _ _ (inv_init n m)
  obtain ⟨h1, h2⟩ := this
  simp only [pow_zero, Nat.div_one, one_mul] at h1 h2
  exact Prod.ext h2 h1

theorem W512_eq_mul : W512 = W256 * W256 := pow_add 2 256 256

theorem new_spec (c1 c0 m : Nat) (hc0 : c0 < W256) (h : c1 * m + c0 < W512) :
    new c1 c0 m = (c1 * m + c0, true) := by
  rw [W512_eq_mul] at h
  unfold new Big.mul Big.add_with_carry
  have hdm := Nat.div_add_mod (c1 * m) W256
  have hW := U256.W256_pos
  have hlo := Nat.mod_lt (c1 * m) hW
  generalize c1 * m = p at *
  generalize p / W256 = hi at *
  generalize p % W256 = lo at *
  generalize W256 = W at *
  have hhi : hi * W + lo + c0 < W * W := by rw [Nat.mul_comm hi]; omega
  simp only
  by_cases hc : lo + c0 ≥ W
  · simp only [hc, decide_true, if_true]
    have hhi1 : hi + 1 < W := by
      have : (hi + 1) * W < W * W := by
        have : (hi + 1) * W = hi * W + W := by ring
        omega
      exact Nat.lt_of_mul_lt_mul_right this
    have e1 : (hi + 1) % W = hi + 1 := Nat.mod_eq_of_lt hhi1
    have e2 : (lo + c0) % W = lo + c0 - W := by
      rw [Nat.mod_eq_sub_mod hc, Nat.mod_eq_of_lt (by omega)]
    have e3 : ¬ (hi + 1 ≥ W) := by omega
    rw [e1, e2]
    simp only [e3, decide_false, Bool.not_false]
    congr 1
    have : (hi + 1) * W = hi * W + W := by ring
    rw [this, ← hdm, Nat.mul_comm W hi]
    omega
  · simp only [hc, decide_false, Bool.false_eq_true, if_false, Bool.not_false]
    have e2 : (lo + c0) % W = lo + c0 := Nat.mod_eq_of_lt (by omega)
    rw [e2, ← hdm, Nat.mul_comm W hi]
    congr 1
    omega

/-- for every dividend: the 512-bit bound is needed for the assertion only -/
theorem divrem_fst (n m : Nat) (hm0 : 0 < m) (hm : m < W256) :
    (divrem n m).1 = (if n / m < m ∧ n / m < W256 then some (n / m) else none, n % m) := by
  unfold divrem
  simp only [loop_spec n m hm0 hm]
  by_cases hq : n / m < W256
  · by_cases h2 : n / m < m <;> simp [hq, h2]
  · simp [hq]

theorem divrem_dbg (n m : Nat) (hm0 : 0 < m) (hm : m < W256) (hn : n < W512) : (divrem n m).2 = true := by
  unfold divrem
  simp only [loop_spec n m hm0 hm]
  by_cases hq : n / m < W256
  · have e : n / m * m + n % m = n := by rw [Nat.mul_comm]; exact Nat.div_add_mod n m
    have := new_spec (n / m) (n % m) m (lt_trans (Nat.mod_lt _ hm0) hm) (by rw [e]; exact hn)
    simp [hq, this, e]
  · simp [hq]

/-- the last component is `debug_assert!(q.is_none() || self == U512::new(q, r, m))`, with the
    `debug_assert!(!carry)` inside `U512::new` -/
theorem divrem_spec (n m : Nat) (hm0 : 0 < m) (hm : m < W256) (hn : n < W512) :
    (divrem n m).1.2 = n % m ∧
    (divrem n m).1.1 = (if n / m < m ∧ n / m < W256 then some (n / m) else none) ∧
    (divrem n m).2 = true :=
  have h := divrem_fst n m hm0 hm
  ⟨congrArg Prod.snd h, congrArg Prod.fst h, divrem_dbg n m hm0 hm hn⟩

theorem divrem_rem (n m : Nat) (hm0 : 0 < m) (hm : m < W256) : (divrem n m).1.2 = n % m :=
  congrArg Prod.snd (divrem_fst n m hm0 hm)

example : divrem (3 * Consts.FQ + 5) Consts.FQ = ((some 3, 5), true) := by decide +kernel

example : (divrem (W512 - 1) Consts.FR).1.2 = (W512 - 1) % Consts.FR :=
  (divrem_spec _ _ (by decide +kernel) (by decide +kernel) (by decide +kernel)).1

end U512
end Sm9
