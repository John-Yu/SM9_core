import Sm9.Proofs.ChainIndepSm9
import Sm9.Proofs.MillerSymmetries
/-!
On `y² = x³ + b` a line `L` through `A₁, A₂, A₃` and a line `G` through `B₁, B₂, B₃` satisfy
`G(A₁)G(A₂)G(A₃) = −L(B₁)L(B₂)L(B₃)` (`line_reciprocity`), and a line times its reflection is a product of verticals.
For `L` a line of the Miller loop through `T, S` and `G` the line of `E(Fq)` through `P₁, P₂, −P₃` (`LineData`), carried
to the twist over `Fq12`, this becomes after the final exponentiation
`l(P₁)^E · l(P₂)^E · H(T+S) = H(T) · H(S) · l(P₃)^E`, `H(U) = (w³·G(ψU))^E` (`star_pt`).
-/
namespace Sm9
namespace Miller
open WeierstrassCurve Polynomial

local notation "E" => ((q ^ 12 - 1) / r)

section core
variable {K : Type} [Field K]

/-- `ξᵢ` the abscissae of the points of `L : y = λx + c` on the curve, `ζⱼ` those of `G : y = gx + d`; both sides are
    `±δ³·p(X₀)`, `δ = λ − g`, at the abscissa `X₀` where the lines meet -/
theorem line_reciprocity (β lam c g d ξ1 ξ2 ξ3 ζ1 ζ2 ζ3 : K)
    (hL : ∀ t, (lam * t + c) ^ 2 - (t ^ 3 + β) = -((t - ξ1) * (t - ξ2) * (t - ξ3)))
    (hG : ∀ t, (g * t + d) ^ 2 - (t ^ 3 + β) = -((t - ζ1) * (t - ζ2) * (t - ζ3))) :
    ((lam - g) * ξ1 + (c - d)) * ((lam - g) * ξ2 + (c - d)) * ((lam - g) * ξ3 + (c - d))
      = -(((g - lam) * ζ1 + (d - c)) * ((g - lam) * ζ2 + (d - c)) * ((g - lam) * ζ3 + (d - c))) := by
  obtain ⟨δ, rfl⟩ : ∃ δ, lam = g + δ := ⟨lam - g, by ring⟩
  by_cases hδ : δ = 0
  · subst hδ; ring
  · obtain ⟨X₀, rfl⟩ : ∃ X₀, d = c + δ * X₀ := ⟨(d - c) / δ, by field_simp; ring⟩
    linear_combination (-δ ^ 3) * hL X₀ + δ ^ 3 * hG X₀

/-- `(ξᵢ, ηᵢ)` on `L`, `(ζⱼ, θⱼ)` on `G`: `L(B₁)L(B₂)·G(−A₃)·∏(ζ₃−ξᵢ) = −G(A₁)G(A₂)·L(−B₃)·∏(ξ₃−ζⱼ)` -/
theorem star_core (β lam c g d ξ1 ξ2 ξ3 η1 η2 η3 ζ1 ζ2 ζ3 θ1 θ2 θ3 : K)
    (hL : ∀ t, (lam * t + c) ^ 2 - (t ^ 3 + β) = -((t - ξ1) * (t - ξ2) * (t - ξ3)))
    (hG : ∀ t, (g * t + d) ^ 2 - (t ^ 3 + β) = -((t - ζ1) * (t - ζ2) * (t - ζ3)))
    (e1 : η1 = lam * ξ1 + c) (e2 : η2 = lam * ξ2 + c) (e3 : η3 = lam * ξ3 + c)
    (f1 : θ1 = g * ζ1 + d) (f2 : θ2 = g * ζ2 + d) (f3 : θ3 = g * ζ3 + d) :
    (θ1 - lam * ζ1 - c) * (θ2 - lam * ζ2 - c) * (-η3 - g * ξ3 - d) * ((ζ3 - ξ1) * (ζ3 - ξ2) * (ζ3 - ξ3))
      = -((η1 - g * ξ1 - d) * (η2 - g * ξ2 - d) * (-θ3 - lam * ζ3 - c) * ((ξ3 - ζ1) * (ξ3 - ζ2) * (ξ3 - ζ3))) := by
  have hR := line_reciprocity β lam c g d ξ1 ξ2 ξ3 ζ1 ζ2 ζ3 hL hG
  have hVL : (θ3 - lam * ζ3 - c) * (-θ3 - lam * ζ3 - c) = -((ζ3 - ξ1) * (ζ3 - ξ2) * (ζ3 - ξ3)) := by
    rw [f3]; linear_combination hL ζ3 - hG ζ3
  have hVG : (η3 - g * ξ3 - d) * (-η3 - g * ξ3 - d) = -((ξ3 - ζ1) * (ξ3 - ζ2) * (ξ3 - ζ3)) := by
    rw [e3]; linear_combination hG ξ3 - hL ξ3
  have hR' : (η1 - g * ξ1 - d) * (η2 - g * ξ2 - d) * (η3 - g * ξ3 - d)
      = -((θ1 - lam * ζ1 - c) * (θ2 - lam * ζ2 - c) * (θ3 - lam * ζ3 - c)) := by
    rw [e1, e2, e3, f1, f2, f3]; linear_combination hR
  generalize (θ1 - lam * ζ1 - c) * (θ2 - lam * ζ2 - c) = a at *
  generalize (η1 - g * ξ1 - d) * (η2 - g * ξ2 - d) = g12 at *
  generalize (ζ3 - ξ1) * (ζ3 - ξ2) * (ζ3 - ξ3) = VL at *
  generalize (ξ3 - ζ1) * (ξ3 - ζ2) * (ξ3 - ζ3) = VG at *
  generalize (θ3 - lam * ζ3 - c) = l3 at *
  generalize (-θ3 - lam * ζ3 - c) = l3' at *
  generalize (η3 - g * ξ3 - d) = g3 at *
  generalize (-η3 - g * ξ3 - d) = g3' at *
  linear_combination (a * g3') * hVL - g3' * l3' * hR' + (l3' * g12) * hVG

end core

section genline
variable {F : Type} [Field F] [DecidableEq F] {K : Type} [Field K] (φ : F →+* K) (b : F)

theorem line_poly {x1 y1 x2 y2 : F} (h1 : (Jac.Wb b).Equation x1 y1) (h2 : (Jac.Wb b).Equation x2 y2)
    (hxy : ¬(x1 = x2 ∧ y1 = (Jac.Wb b).negY x2 y2)) (t : K) :
    (φ ((Jac.Wb b).slope x1 x2 y1 y2) * (t - φ x1) + φ y1) ^ 2 - (t ^ 3 + φ b)
      = -((t - φ x1) * (t - φ x2) *
          (t - φ ((Jac.Wb b).addX x1 x2 ((Jac.Wb b).slope x1 x2 y1 y2)))) := by
  have h := congrArg (Polynomial.eval₂ φ t) (Affine.addPolynomial_slope h1 h2 hxy)
  rw [Affine.addPolynomial_eq] at h
  generalize (Jac.Wb b).slope x1 x2 y1 y2 = l at h ⊢
  generalize (Jac.Wb b).addX x1 x2 l = x3 at h ⊢
  simp only [Cubic.toPoly, Jac.Wb, eval₂_neg, eval₂_add, eval₂_mul, eval₂_sub, eval₂_pow, eval₂_X,
    eval₂_C, eval₂_one, eval₂_zero, eval₂_ofNat, map_neg, map_add, map_sub, map_mul, map_pow, map_one, map_zero,
    map_ofNat] at h
  linear_combination h

theorem line_second {x1 y1 x2 y2 : F} (h1 : (Jac.Wb b).Equation x1 y1) (h2 : (Jac.Wb b).Equation x2 y2)
    (hxy : ¬(x1 = x2 ∧ y1 = (Jac.Wb b).negY x2 y2)) :
    y2 = (Jac.Wb b).slope x1 x2 y1 y2 * (x2 - x1) + y1 := by
  by_cases hx : x1 = x2
  · have hy := Affine.Y_eq_of_Y_ne h1 h2 hx (fun h => hxy ⟨hx, h⟩)
    rw [hx, hy, sub_self, mul_zero, zero_add]
  · rw [Affine.slope_of_X_ne hx]
    have hd : x1 - x2 ≠ 0 := sub_ne_zero.mpr hx
    field_simp
    ring

omit [DecidableEq F] in
theorem wb_addY (x1 x2 y1 l : F) :
    (Jac.Wb b).addY x1 x2 y1 l = -(l * ((Jac.Wb b).addX x1 x2 l - x1) + y1) := by
  simp [Affine.addY, Affine.negAddY, Affine.negY, Jac.Wb]

/-- the line `y = Γ x + D` through `P1`, `P2`, `−P3` (`P1 + P2 = P3`), seen in `K` -/
structure LineData (x1 y1 x2 y2 x3 y3 Γ D : F) : Prop where
  poly : ∀ s : K, (φ Γ * s + φ D) ^ 2 - (s ^ 3 + φ b) = -((s - φ x1) * (s - φ x2) * (s - φ x3))
  p1 : φ y1 = φ Γ * φ x1 + φ D
  p2 : φ y2 = φ Γ * φ x2 + φ D
  p3 : -φ y3 = φ Γ * φ x3 + φ D

theorem lineData_of_add {x1 y1 x2 y2 x3 y3 : F} (h1 : (Jac.Wb b).Nonsingular x1 y1)
    (h2 : (Jac.Wb b).Nonsingular x2 y2) (h3 : (Jac.Wb b).Nonsingular x3 y3)
    (hadd : (Affine.Point.some x1 y1 h1 : (Jac.Wb b).Point) + Affine.Point.some x2 y2 h2
      = Affine.Point.some x3 y3 h3) :
    ∃ Γ D : F, LineData φ b x1 y1 x2 y2 x3 y3 Γ D := by
  have hxy : ¬(x1 = x2 ∧ y1 = (Jac.Wb b).negY x2 y2) := by
    intro h
    rw [Affine.Point.add_of_Y_eq h.1 h.2] at hadd
    exact Affine.Point.some_ne_zero _ hadd.symm
  rw [Affine.Point.add_some hxy] at hadd
  obtain ⟨ex, ey⟩ := Affine.Point.some.inj hadd
  refine ⟨(Jac.Wb b).slope x1 x2 y1 y2, y1 - (Jac.Wb b).slope x1 x2 y1 y2 * x1, ?_, ?_, ?_, ?_⟩
  · intro s
    have h := line_poly φ b h1.left h2.left hxy s
    rw [ex] at h
    simp only [map_sub, map_mul]
    linear_combination h
  · simp only [map_sub, map_mul]; ring
  · have h := congrArg φ (line_second b h1.left h2.left hxy)
    simp only [map_add, map_sub, map_mul] at h ⊢
    linear_combination h
  · rw [← ey, ← ex, wb_addY]
    simp only [map_neg, map_add, map_sub, map_mul]
    ring

end genline

/-- `w³·G(ψ(U))` for the line `G : y = Γx + D` of `E(Fq)` and a twist point `U = (x, y)`: the line
    `y = Γw·x + Dw³` of the twist (over `Fq12`) through `ψ⁻¹(P1)`, `ψ⁻¹(P2)`, evaluated at `U` -/
noncomputable def hG (Γ D : Fq) (x y : Fq2) : Fq12 :=
  Fq12.ofFq2 y - Fq12.ofFq Γ * Fq12.w * Fq12.ofFq2 x - Fq12.ofFq D * Fq12.w ^ 3

theorem vert'_pow_final (xP : Fq) (x : Fq2) (hx : x ≠ 0) : (Fq12.ofFq2 x - evX xP) ^ E = 1 :=
  pow_final_of_sigma_fixed _ (sub_ne_zero.2 (sub_ne_zero.1 (vert_ne_zero xP x hx)).symm)
    (by rw [← neg_sub, map_neg, sigma_vert])

theorem hG_ne_zero (Γ D : Fq) (x y : Fq2) (hy : y ≠ 0) : hG Γ D x y ≠ 0 := by
  intro h
  apply hy
  have h' := congrArg (fun z : Fq12 => z.c0.c0) h
  unfold hG at h'
  rw [Fq12.w_pow3] at h'
  simpa [Fq12.ofFq2_apply, Fq12.ofFq_apply, Fq12.w] using h'

section sm9
variable {x1 y1 x2 y2 x3 y3 Γ D : Fq} (hd : LineData Fq12.ofFq b1 x1 y1 x2 y2 x3 y3 Γ D)
include hd

theorem polyT (t : Fq12) :
    (Fq12.ofFq Γ * Fq12.w * t + Fq12.ofFq D * Fq12.w ^ 3) ^ 2 - (t ^ 3 + Fq12.ofFq2 b2)
      = -((t - evX x1) * (t - evX x2) * (t - evX x3)) := by
  obtain ⟨s, rfl⟩ : ∃ s, t = s * Fq12.w ^ 2 :=
    ⟨t * (Fq12.w ^ 2)⁻¹, by have := w_ne_zero; field_simp⟩
  unfold evX
  linear_combination (Fq12.w ^ 6) * hd.poly s + b1_w6

theorem star_line {xT yT xS yS : Fq2} (hT : (Jac.Wb b2).Equation xT yT) (hS : (Jac.Wb b2).Equation xS yS)
    (hxy : ¬(xT = xS ∧ yT = (Jac.Wb b2).negY xS yS)) :
    (Fq12.w ^ 3 * lineSpec xT yT ((Jac.Wb b2).slope xT xS yT yS) x1 y1)
      * (Fq12.w ^ 3 * lineSpec xT yT ((Jac.Wb b2).slope xT xS yT yS) x2 y2)
      * hG Γ D ((Jac.Wb b2).addX xT xS ((Jac.Wb b2).slope xT xS yT yS))
          ((Jac.Wb b2).addY xT xS yT ((Jac.Wb b2).slope xT xS yT yS))
      * ((evX x3 - Fq12.ofFq2 xT) * (evX x3 - Fq12.ofFq2 xS)
          * (evX x3 - Fq12.ofFq2 ((Jac.Wb b2).addX xT xS ((Jac.Wb b2).slope xT xS yT yS))))
    = -(hG Γ D xT yT * hG Γ D xS yS
      * (Fq12.w ^ 3 * lineSpec xT yT ((Jac.Wb b2).slope xT xS yT yS) x3 y3)
      * ((Fq12.ofFq2 ((Jac.Wb b2).addX xT xS ((Jac.Wb b2).slope xT xS yT yS)) - evX x1)
          * (Fq12.ofFq2 ((Jac.Wb b2).addX xT xS ((Jac.Wb b2).slope xT xS yT yS)) - evX x2)
          * (Fq12.ofFq2 ((Jac.Wb b2).addX xT xS ((Jac.Wb b2).slope xT xS yT yS)) - evX x3))) := by
  have hL := line_poly Fq12.ofFq2 b2 hT hS hxy
  have h2 := congrArg Fq12.ofFq2 (line_second b2 hT hS hxy)
  rw [wb_addY]
  generalize (Jac.Wb b2).slope xT xS yT yS = lam at hL h2 ⊢
  generalize (Jac.Wb b2).addX xT xS lam = x' at hL ⊢
  have hG' := polyT hd
  have q1 : evY y1 = Fq12.ofFq Γ * Fq12.w * evX x1 + Fq12.ofFq D * Fq12.w ^ 3 := by
    unfold evX evY; linear_combination (Fq12.w ^ 3) * hd.p1
  have q2 : evY y2 = Fq12.ofFq Γ * Fq12.w * evX x2 + Fq12.ofFq D * Fq12.w ^ 3 := by
    unfold evX evY; linear_combination (Fq12.w ^ 3) * hd.p2
  have q3 : -evY y3 = Fq12.ofFq Γ * Fq12.w * evX x3 + Fq12.ofFq D * Fq12.w ^ 3 := by
    unfold evX evY; linear_combination (Fq12.w ^ 3) * hd.p3
  have key := star_core (Fq12.ofFq2 b2) (Fq12.ofFq2 lam) (Fq12.ofFq2 (yT - lam * xT))
    (Fq12.ofFq Γ * Fq12.w) (Fq12.ofFq D * Fq12.w ^ 3)
    (Fq12.ofFq2 xT) (Fq12.ofFq2 xS) (Fq12.ofFq2 x')
    (Fq12.ofFq2 yT) (Fq12.ofFq2 yS) (Fq12.ofFq2 (lam * (x' - xT) + yT))
    (evX x1) (evX x2) (evX x3) (evY y1) (evY y2) (-evY y3)
    (fun t => by
      have := hL t
      simp only [map_sub, map_mul]
      linear_combination this)
    hG' (by simp only [map_sub, map_mul]; ring)
    (by simp only [map_add, map_sub, map_mul] at h2 ⊢; linear_combination h2)
    (by simp only [map_add, map_sub, map_mul]; ring) q1 q2 q3
  rw [w3_lineSpec, w3_lineSpec, w3_lineSpec]
  unfold hG
  simp only [map_neg]
  rw [neg_neg] at key
  exact key

end sm9

noncomputable def Hpt (Γ D : Fq) : (Jac.Wb b2).Point → Fq12
  | .zero => 1
  | .some x y _ => hG Γ D x y ^ E

theorem Hpt_some (Γ D : Fq) {x y : Fq2} (h : (Jac.Wb b2).Nonsingular x y) :
    Hpt Γ D (.some x y h) = hG Γ D x y ^ E := rfl

theorem Hpt_pow_r (Γ D : Fq) (U : (Jac.Wb b2).Point) : Hpt Γ D U ^ r = 1 := by
  cases U with
  | zero => exact one_pow _
  | some x y h => exact pow_final_exponent_pow_r _ (hG_ne_zero Γ D x y (twist_y_ne_zero h))

theorem hG_frob (Γ D : Fq) (x y : Fq2) :
    hG Γ D (conj x * pi1F⁻¹ ^ 2) (conj y * pi1F⁻¹ ^ 3) = Fq12.ofFq2 (pi1F⁻¹ ^ 3) * hG Γ D x y ^ q := by
  have hq : hG Γ D x y ^ q = Fq12.ofFq2 (conj y)
      - Fq12.ofFq Γ * (Fq12.ofFq2 pi1F * Fq12.w) * Fq12.ofFq2 (conj x)
      - Fq12.ofFq D * (Fq12.ofFq2 pi1F * Fq12.w) ^ 3 := by
    unfold hG
    rw [← frobenius_def, map_sub, map_sub, map_mul, map_mul, map_mul, map_pow]
    simp only [frobenius_def, ofFq_pow_q, ofFq2_pow_q, Fq12.w_pow_q, ← ofFq2_pi1F, ← conj_apply]
  rw [hq]
  unfold hG
  have hp : Fq12.ofFq2 pi1F ≠ 0 := Fq12.ofFq2_ne_zero pi1F_ne_zero
  simp only [map_mul, map_pow, map_inv₀]
  field_simp

theorem Hpt_frob (Γ D : Fq) (U : (Jac.Wb b2).Point) : Hpt Γ D (frobHom U) = Hpt Γ D U ^ q := by
  cases U with
  | zero => exact (one_pow _).symm
  | some x y h =>
    show Hpt Γ D (ptMap b2 conj pi1F⁻¹ (inv_ne_zero pi1F_ne_zero) frob_coeff (.some x y h)) = _
    rw [ptMap_some, Hpt_some, Hpt_some, hG_frob, mul_pow,
      ofFq2_pow_final _ (pow_ne_zero _ (inv_ne_zero pi1F_ne_zero)), one_mul, pow_right_comm]

section sm9pt
variable {x1 y1 x2 y2 x3 y3 Γ D : Fq} (hd : LineData Fq12.ofFq b1 x1 y1 x2 y2 x3 y3 Γ D)
include hd

theorem Hpt_neg (U : (Jac.Wb b2).Point) : Hpt Γ D (-U) * Hpt Γ D U = 1 := by
  cases U with
  | zero => exact one_mul _
  | some x y h =>
    rw [Affine.Point.neg_some, Hpt_some, Hpt_some, Jac.negY_eq]
    have he := congrArg Fq12.ofFq2 ((Jac.nonsingular_iff b2 _ _).1 h).1
    simp only [map_add, map_pow] at he
    have hp := polyT hd (Fq12.ofFq2 x)
    have hx := twist_x_ne_zero h
    have key : hG Γ D x (-y) * hG Γ D x y
        = -((Fq12.ofFq2 x - evX x1) * (Fq12.ofFq2 x - evX x2) * (Fq12.ofFq2 x - evX x3)) := by
      unfold hG
      simp only [map_neg]
      linear_combination hp - he
    rw [← mul_pow, key, neg_pow, neg_one_pow_final, one_mul, mul_pow, mul_pow, vert'_pow_final _ _ hx,
      vert'_pow_final _ _ hx, vert'_pow_final _ _ hx, one_mul, one_mul]

theorem star_pt (T S : (Jac.Wb b2).Point) (hT : T ≠ 0) (hS : S ≠ 0) (hTS : T + S ≠ 0) :
    lineVal (Jac.Wb b2) (lineAt x1 y1) T S ^ E * lineVal (Jac.Wb b2) (lineAt x2 y2) T S ^ E
        * Hpt Γ D (T + S)
      = Hpt Γ D T * Hpt Γ D S * lineVal (Jac.Wb b2) (lineAt x3 y3) T S ^ E := by
  obtain ⟨xT, yT, hnT, rfl⟩ := exists_some_of_ne_zero _ hT
  obtain ⟨xS, yS, hnS, rfl⟩ := exists_some_of_ne_zero _ hS
  by_cases hxy : xT = xS ∧ yT = (Jac.Wb b2).negY xS yS
  · exact absurd (Affine.Point.add_of_Y_eq hxy.1 hxy.2) hTS
  · rw [Affine.Point.add_some hxy, Hpt_some, Hpt_some, Hpt_some, lineVal_some, lineVal_some, lineVal_some]
    -- the final exponentiation kills `w³`, `−1` and the verticals of `star_line`
    have h := star_line hd hnT.left hnS.left hxy
    have h0 := twist_x_ne_zero hnT
    have h1 := twist_x_ne_zero hnS
    have h2 := twist_x_ne_zero (Affine.nonsingular_add hnT hnS hxy)
    have a1 := w3_pow_final
    have a2 := neg_one_pow_final
    have v0 := vert_pow_final x3 _ (vert_ne_zero x3 _ h0)
    have v1 := vert_pow_final x3 _ (vert_ne_zero x3 _ h1)
    have v2 := vert_pow_final x3 _ (vert_ne_zero x3 _ h2)
    have u1 := vert'_pow_final x1 _ h2
    have u2 := vert'_pow_final x2 _ h2
    have u3 := vert'_pow_final x3 _ h2
    generalize (q ^ 12 - 1) / r = e at *
    have h' := congrArg (fun z : Fq12 => z ^ e) h
    simp only [mul_pow, neg_pow, a1, a2, v0, v1, v2, u1, u2, u3, one_mul, mul_one] at h'
    exact h'

end sm9pt

end Miller
end Sm9

