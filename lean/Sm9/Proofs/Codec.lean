import Sm9.Proofs.Consts
import Sm9.Proofs.Bytes
/-!
# Byte codecs

The strict coordinate decoders (`fields::Fq::from_slice`, `Fq2::from_slice`) accept exactly the encodings.
-/
namespace Sm9

theorem q_lt_pow : q < 256 ^ 32 := by decide +kernel

theorem Fq.val_lt (a : Fq) : a.val < q := a.isLt
theorem Fq.val_lt_pow (a : Fq) : a.val < 256 ^ 32 := Nat.lt_trans a.isLt q_lt_pow

theorem Fq.val_ne_zero {y : Fq} (hy : y ≠ 0) : y.val ≠ 0 :=
  fun h => hy (Fin.ext (h.trans (Nat.zero_mod q).symm))

theorem Fq.neg_val (y : Fq) (hy : y ≠ 0) : (-y).val = q - y.val := by
  have h0 := Fq.val_ne_zero hy
  have hlt : y.val < q := y.isLt
  show (q - y.val) % q = q - y.val
  exact Nat.mod_eq_of_lt (by omega)

theorem q_odd : q % 2 = 1 := fq_range.2.2

theorem Fq.is_even_neg (y : Fq) (hy : y ≠ 0) : (-y).is_even = !y.is_even := by
  unfold Fq.is_even
  rw [Fq.neg_val y hy]
  have h0 := Fq.val_ne_zero hy
  have hlt : y.val < q := y.isLt
  have hq := q_odd
  generalize q = Q at *
  generalize y.val = v at *
  by_cases hv : v % 2 = 0
  · have : (Q - v) % 2 = 1 := by omega
    simp [hv, this]
  · have : (Q - v) % 2 = 0 := by omega
    simp [hv, this]

theorem Fq.new_pos (n : Nat) (h : n < q) : Fq.new n = some (⟨n, h⟩ : Fin q) := by
  unfold Fq.new
  exact dif_pos h
theorem Fq.new_neg (n : Nat) (h : ¬ n < q) : Fq.new n = none := by
  unfold Fq.new
  exact dif_neg h

theorem Fq.new_eq_some_iff (n : Nat) (x : Fq) : Fq.new n = some x ↔ n = x.val := by
  unfold Fq.new
  split
  · exact ⟨fun h => Option.some.inj h ▸ rfl, fun h => congrArg some (Fin.ext h)⟩
  · next hn => exact ⟨fun h => (by cases h), fun h => absurd (h ▸ x.isLt) hn⟩

theorem Fq.new_val (x : Fq) : Fq.new x.val = some x := (Fq.new_eq_some_iff _ _).2 rfl

theorem Fq.new_eq_none_iff (n : Nat) : Fq.new n = none ↔ q ≤ n := by
  unfold Fq.new
  split
  · next hn => exact ⟨fun h => (by cases h), fun h => absurd hn (Nat.not_lt.2 h)⟩
  · next hn => exact ⟨fun _ => Nat.not_lt.1 hn, fun _ => rfl⟩

namespace Api

theorem fqToSlice_length (a : Fq) : (fqToSlice a).length = 32 := beBytes_length _ _
theorem beVal_fqToSlice (a : Fq) : beVal (fqToSlice a) = a.val := beVal_beBytes _ _ (Fq.val_lt_pow a)

theorem fqFromSliceStrict_iff (bs : List UInt8) (x : Fq) :
    fqFromSliceStrict bs = some x ↔ bs.length = 32 ∧ beVal bs = x.val := by
  unfold fqFromSliceStrict
  by_cases hl : bs.length = 32
  · rw [if_pos hl, Fq.new_eq_some_iff]; simp [hl]
  · rw [if_neg hl]; simp [hl]

theorem fqFromSliceStrict_eq_none_iff (bs : List UInt8) :
    fqFromSliceStrict bs = none ↔ bs.length ≠ 32 ∨ q ≤ beVal bs := by
  unfold fqFromSliceStrict
  by_cases hl : bs.length = 32
  · rw [if_pos hl, Fq.new_eq_none_iff]; simp [hl]
  · rw [if_neg hl]; simp [hl]

theorem fqFromSliceStrict_toSlice (a : Fq) : fqFromSliceStrict (fqToSlice a) = some a :=
  (fqFromSliceStrict_iff _ _).2 ⟨fqToSlice_length a, beVal_fqToSlice a⟩

theorem fqToSlice_of_fromSliceStrict {bs : List UInt8} {x : Fq} (h : fqFromSliceStrict bs = some x) :
    fqToSlice x = bs := by
  obtain ⟨hl, hv⟩ := (fqFromSliceStrict_iff _ _).1 h
  unfold fqToSlice
  rw [← hv]
  exact beBytes_beVal hl

theorem fqToSlice_inj {a b : Fq} (h : fqToSlice a = fqToSlice b) : a = b :=
  Fin.ext (beBytes_inj (Fq.val_lt_pow a) (Fq.val_lt_pow b) h)

theorem pair_enc_iff (bs : List UInt8) (x y : Fq) :
    bs = fqToSlice x ++ fqToSlice y ↔
      bs.length = 64 ∧ beVal (bs.take 32) = x.val ∧ beVal (bs.drop 32) = y.val := by
  rw [← take_drop_eq_iff (fqToSlice_length x)]
  constructor
  · rintro ⟨h1, h2⟩
    refine ⟨?_, by rw [h1, beVal_fqToSlice], by rw [h2, beVal_fqToSlice]⟩
    rw [← List.take_append_drop 32 bs, List.length_append, h1, h2, fqToSlice_length, fqToSlice_length]
  · rintro ⟨hl, h1, h2⟩
    have ht : (bs.take 32).length = 32 := by rw [List.length_take]; omega
    have hd : (bs.drop 32).length = 32 := by rw [List.length_drop]; omega
    exact ⟨(fqToSlice_of_fromSliceStrict ((fqFromSliceStrict_iff _ x).2 ⟨ht, h1⟩)).symm,
      (fqToSlice_of_fromSliceStrict ((fqFromSliceStrict_iff _ y).2 ⟨hd, h2⟩)).symm⟩

theorem fq2ToSlice_length (a : Fq2) : (fq2ToSlice a).length = 64 := by
  unfold fq2ToSlice
  rw [List.length_append, fqToSlice_length, fqToSlice_length]

theorem fq2ToSlice_take (a : Fq2) : (fq2ToSlice a).take 32 = fqToSlice a.c1 :=
  take_append_of_length (fqToSlice_length _)
theorem fq2ToSlice_drop (a : Fq2) : (fq2ToSlice a).drop 32 = fqToSlice a.c0 :=
  drop_append_of_length (fqToSlice_length _)

/-- imaginary part first -/
theorem fq2FromSlice_iff (bs : List UInt8) (x : Fq2) :
    fq2FromSlice bs = some x ↔
      bs.length = 64 ∧ beVal (bs.take 32) = x.c1.val ∧ beVal (bs.drop 32) = x.c0.val := by
  unfold fq2FromSlice
  by_cases hl : bs.length = 64
  · rw [if_pos hl]
    have ht : (bs.take 32).length = 32 := by rw [List.length_take]; omega
    have hd : (bs.drop 32).length = 32 := by rw [List.length_drop]; omega
    constructor
    · intro h
      split at h
      · next c1 c0 h1 h0 =>
        rw [Option.some.injEq] at h
        subst h
        exact ⟨hl, ((fqFromSliceStrict_iff _ _).1 h1).2, ((fqFromSliceStrict_iff _ _).1 h0).2⟩
      · cases h
    · rintro ⟨_, h1, h0⟩
      rw [(fqFromSliceStrict_iff _ x.c1).2 ⟨ht, h1⟩, (fqFromSliceStrict_iff _ x.c0).2 ⟨hd, h0⟩]
  · rw [if_neg hl]; simp [hl]

theorem fq2FromSlice_toSlice (a : Fq2) : fq2FromSlice (fq2ToSlice a) = some a :=
  (fq2FromSlice_iff _ _).2 ((pair_enc_iff _ a.c1 a.c0).1 rfl)

theorem fq2ToSlice_of_fromSlice {bs : List UInt8} {x : Fq2} (h : fq2FromSlice bs = some x) :
    fq2ToSlice x = bs :=
  ((pair_enc_iff bs x.c1 x.c0).2 ((fq2FromSlice_iff _ _).1 h)).symm

theorem fq2ToSlice_inj {a b : Fq2} (h : fq2ToSlice a = fq2ToSlice b) : a = b := by
  have := fq2FromSlice_toSlice a
  rw [h, fq2FromSlice_toSlice, Option.some.injEq] at this
  exact this.symm

theorem fq4ToSlice_length (a : Fq4) : (fq4ToSlice a).length = 128 := by
  unfold fq4ToSlice
  rw [List.length_append, fq2ToSlice_length, fq2ToSlice_length]

theorem fq4ToSlice_inj {a b : Fq4} (h : fq4ToSlice a = fq4ToSlice b) : a = b := by
  have e := List.append_inj h (by rw [fq2ToSlice_length, fq2ToSlice_length])
  cases a; cases b
  exact congrArg₂ Fq4.mk (fq2ToSlice_inj e.2) (fq2ToSlice_inj e.1)

theorem fq12ToSlice_inj {a b : Fq12} (h : fq12ToSlice a = fq12ToSlice b) : a = b := by
  have e := List.append_inj h (by simp only [List.length_append, fq4ToSlice_length])
  have e' := List.append_inj e.1 (by rw [fq4ToSlice_length, fq4ToSlice_length])
  cases a; cases b
  exact congr (congrArg₂ Fq12.mk (fq4ToSlice_inj e.2) (fq4ToSlice_inj e'.2)) (fq4ToSlice_inj e'.1)

end Api

end Sm9
