import Sm9.Proofs.MillerNafLines
import Sm9.Proofs.MillerPrepared
/-!
# `G2::miller_loop` (numerator/denominator, signed digits) computes the textbook Miller function

`G2m.miller_loop` (pairings.rs, GmSSL style: Jacobian `T`, accumulators `f_num`, `f_den`, the
signed-digit table `SM9_LOOP_COUNT`, two Frobenius line steps with `point_pi1`, `point_pi2`, finally
`f_num · f_den⁻¹`) against `Miller.specMillerNaf` (`Sm9/Proofs/MillerNafSpec.lean`).

Each evaluator returns the line value of the specification as a fraction, `den ≠ 0`, `num = −den · l(P)` (`NegFrac`, from
the coordinate statements of `Sm9/Proofs/MillerNafLines.lean`).  The invariant "the point represents `[m]Q`, `f_den ≠ 0` and
`f_num = ε · f_den · f_spec`" (`NafInv`) is carried along the chain (`chain_sim`); the sign `ε` is a function of the
multiplier (`sgn`): `−1` for even `m`, `+1` for odd `m`, and `6t+2` is even, so the loop returns exactly `−specMNaf`.
The order hypothesis `r • Q = 0` excludes `T = O`, `T = ±Q` (`chainOKNaf_loop`), `π(Q) = [q]Q` the degenerate cases of
the Frobenius steps (`InG2.tail`).
-/
namespace Sm9
namespace Miller

/-- a pair (numerator, denominator) whose quotient is `−l` -/
def NegFrac (nd : Fq12 × Fq12) (l : Fq12) : Prop := nd.2 ≠ 0 ∧ nd.1 = -(nd.2 * l)

section lines
variable {T R : G2} {S S' : (Jac.Wb b2).Point}

theorem eval_g_tangent_lineVal (P : G1) (h : Rep T S) :
    NegFrac (G2m.eval_g_tangent T P) (lineVal (Jac.Wb b2) (lineAt P.x P.y) S S) := by
  obtain ⟨t1, -, t3⟩ := eval_g_tangent_line T P h.z (fun hy => h.y_ne_zero (by rw [hy, zero_div]))
  exact ⟨t1, by rw [t3, lineVal_tangent _ h]; rfl⟩

theorem eval_g_line_lineVal (P : G1) (h : Rep T S) (h' : Rep R S') (hne : S ≠ S') (hne' : S ≠ -S') :
    NegFrac (G2m.eval_g_line T R P) (lineVal (Jac.Wb b2) (lineAt P.x P.y) S S') := by
  obtain ⟨t1, -, t3⟩ := eval_g_line_line T R P h.z h'.z (h.x_ne h' hne hne')
  exact ⟨t1, by rw [t3, lineVal_chord _ h h' hne hne']; rfl⟩

end lines

/-- the fraction `fn / fd` is `ε·g`, `ε = ±1` the sign the loop has accumulated (`sgn m`).  Four arguments: on a pair `(fn, fd)` the unifier unfolds the tower
    at every `exact mul_ne_zero …`. -/
def Frac (ε fn fd g : Fq12) : Prop := fd ≠ 0 ∧ fn = ε * fd * g

/-- squaring clears the sign, a line brings in `−1` -/
theorem Frac.sq_mul {ε fn fd g l : Fq12} {t : Fq12 × Fq12} (h : Frac ε fn fd g) (hε : ε * ε = 1)
    (ht : NegFrac t l) : Frac (-1) (fn.squared * t.1) (fd.squared * t.2) (g * g * l) := by
  obtain ⟨h1, h2⟩ := h
  obtain ⟨t1, t2⟩ := ht
  rw [Fq12.squared_eq_mul, Fq12.squared_eq_mul]
  refine ⟨mul_ne_zero (mul_ne_zero h1 h1) t1, ?_⟩
  rw [h2, t2]
  linear_combination (-(fd * fd * t.2 * (g * g * l))) * hε

theorem Frac.mul_line {fn fd g l : Fq12} {t : Fq12 × Fq12} (h : Frac (-1) fn fd g) (ht : NegFrac t l) :
    Frac 1 (fn * t.1) (fd * t.2) (g * l) := by
  obtain ⟨h1, h2⟩ := h
  obtain ⟨t1, t2⟩ := ht
  refine ⟨mul_ne_zero h1 t1, ?_⟩
  rw [h2, t2]
  ring

/-- the sign of the fraction at the multiplier `m`: a digit `0` leaves `m` even and the sign `−1`, a digit
    `±1` leaves `m` odd and the sign `+1` -/
def sgn (m : Nat) : Fq12 := if m % 2 = 0 then -1 else 1

theorem sgn_sq (m : Nat) : sgn m * sgn m = 1 := by
  unfold sgn; split <;> ring

theorem millerStep_one (self q1 : G2) (p : G1) (T : G2) (fn fd : Fq12) :
    G2m.millerStep self q1 p (T, fn, fd) 1 =
      (T.double.add self,
        fn.squared * (G2m.eval_g_tangent T p).1 * (G2m.eval_g_line T.double self p).1,
        fd.squared * (G2m.eval_g_tangent T p).2 * (G2m.eval_g_line T.double self p).2) := rfl

theorem millerStep_two (self q1 : G2) (p : G1) (T : G2) (fn fd : Fq12) :
    G2m.millerStep self q1 p (T, fn, fd) 2 =
      (T.double.add q1,
        fn.squared * (G2m.eval_g_tangent T p).1 * (G2m.eval_g_line T.double q1 p).1,
        fd.squared * (G2m.eval_g_tangent T p).2 * (G2m.eval_g_line T.double q1 p).2) := rfl

theorem millerStep_other (self q1 : G2) (p : G1) (T : G2) (fn fd : Fq12) (d : Nat) (h1 : d ≠ 1) (h2 : d ≠ 2) :
    G2m.millerStep self q1 p (T, fn, fd) d =
      (T.double, fn.squared * (G2m.eval_g_tangent T p).1, fd.squared * (G2m.eval_g_tangent T p).2) := by
  have e1 : (d == 1) = false := by simpa using h1
  have e2 : (d == 2) = false := by simpa using h2
  unfold G2m.millerStep
  simp only [e1, e2, Bool.false_eq_true, if_false]

section loop
variable (P : G1) (p : Fq2 × Fq2) (hp : p.2 * p.2 = p.1 * p.1 * p.1 + b2) (hord : r • twPt p = 0)

def NafInv (m : Nat) (c : G2 × Fq12 × Fq12) (s : (Jac.Wb b2).Point × Fq12) : Prop :=
  Rep c.1 s.1 ∧ s.1 = m • twPt p ∧ Frac (sgn m) c.2.1 c.2.2 s.2

-- `millerStep self q1 …`: the crate's `q1` is `−Q` inside the loop (digit `−1`), not `π(Q)`
include hp hord in
theorem millerStep_refines (m : Nat) (c : G2 × Fq12 × Fq12) (s : (Jac.Wb b2).Point × Fq12) (d : Nat)
    (hm : 0 < m) (hmr : 2 * m + 1 < r) (h : NafInv p m c s) :
    NafInv p (nafNext m d) (G2m.millerStep (affG2 p) (affG2 p).neg P c d)
      (specStepNaf (Jac.Wb b2) (lineAt P.x P.y) (twPt p) s d) := by
  obtain ⟨T, fn, fd⟩ := c
  obtain ⟨hT, hS, hf⟩ := h
  simp only at hT hS hf
  have h0 := twPt_ne_zero p hp
  have hQ := rep_affG2 p hp
  have h2m : s.1 + s.1 = (2 * m) • twPt p := by rw [hS, mul_smul, two_smul]
  have hd : Rep T.double (s.1 + s.1) := hT.double
  have fd' := hf.sq_mul (sgn_sq m) (eval_g_tangent_lineVal P hT)
  have hne : s.1 + s.1 ≠ twPt p := h2m ▸ nsmul_ne_self hord h0 (by omega) (by omega)
  have hne' : s.1 + s.1 ≠ -twPt p := h2m ▸ nsmul_ne_neg hord h0 hmr
  unfold specStepNaf nafNext
  by_cases hd1 : d = 1
  · subst hd1
    rw [millerStep_one, if_pos rfl, if_pos rfl]
    refine ⟨hd.add hQ hne hne', by rw [h2m, add_smul, one_smul], ?_⟩
    have := fd'.mul_line (eval_g_line_lineVal P hd hQ hne hne')
    rwa [show sgn (2 * m + 1) = 1 by unfold sgn; rw [if_neg (by omega)]]
  by_cases hd2 : d = 2
  · subst hd2
    rw [millerStep_two, if_neg (by decide), if_pos rfl, if_neg (by decide), if_pos rfl]
    refine ⟨hd.add hQ.neg hne' (by rw [neg_neg]; exact hne), ?_, ?_⟩
    · dsimp only
      rw [h2m, ← sub_eq_add_neg, sub_eq_iff_eq_add, ← succ_nsmul, Nat.sub_add_cancel (Nat.mul_pos Nat.two_pos hm)]
    · have := fd'.mul_line (eval_g_line_lineVal P hd hQ.neg hne' (by rw [neg_neg]; exact hne))
      rwa [show sgn (2 * m - 1) = 1 by unfold sgn; rw [if_neg (by omega)]]
  · rw [millerStep_other _ _ _ _ _ _ _ hd1 hd2, if_neg hd1, if_neg hd2, if_neg hd1, if_neg hd2]
    refine ⟨hd, h2m, ?_⟩
    rwa [show sgn (2 * m) = -1 by unfold sgn; rw [if_pos (by omega)]]

include hp hord in
theorem loopNaf_refines :
    NafInv p Consts.SM9_LOOP_N
      (Consts.SM9_LOOP_COUNT.foldl (G2m.millerStep (affG2 p) (affG2 p).neg P) (affG2 p, Fq12.one, Fq12.one))
      (specLoopNaf (Jac.Wb b2) (lineAt P.x P.y) (twPt p) Consts.SM9_LOOP_COUNT) := by
  have h : NafInv p (chainValNaf Consts.SM9_LOOP_COUNT 1) _ _ := chain_sim nafNext (NafInv p) _ _
    (fun m c s d hm hmr h => millerStep_refines P p hp hord m c s d hm hmr h) Consts.SM9_LOOP_COUNT 1
    (affG2 p, Fq12.one, Fq12.one) (twPt p, 1) chainOKNaf_loop
    ⟨rep_affG2 p hp, (one_smul _ _).symm, one_ne_zero, by
      show (1 : Fq12) = sgn 1 * 1 * 1
      unfold sgn; rw [if_neg (by decide)]; ring⟩
  rw [chainValNaf_loop] at h
  exact h
end loop

theorem miller_loop_eq (self : G2) (P : G1) (C : G2 × Fq12 × Fq12)
    (hC : C = Consts.SM9_LOOP_COUNT.foldl (G2m.millerStep self self.neg P) (self, Fq12.one, Fq12.one)) :
    G2m.miller_loop self P =
      (do let fdi ← Outcome.unwrap
            (C.2.2 * (G2m.eval_g_line C.1 (G2m.point_pi1 self) P).2
              * (G2m.eval_g_line (C.1.add (G2m.point_pi1 self)) (G2m.point_pi2 self).neg P).2).inverse
          pure (C.2.1 * (G2m.eval_g_line C.1 (G2m.point_pi1 self) P).1
              * (G2m.eval_g_line (C.1.add (G2m.point_pi1 self)) (G2m.point_pi2 self).neg P).1 * fdi)) := by
  unfold G2m.miller_loop
  simp only []
  rw [← hC]

local notation "E" => ((q ^ 12 - 1) / r)

/-- **`G2::miller_loop` is the textbook Miller function of the signed-digit chain, up to the sign
    `−1`** (which the final exponentiation removes), for a point of `G2 ∖ O`.  `P` enters only through
    `P.x`, `P.y`. -/
theorem naf_miller_eq_specM (P : G1) (xQ yQ : Fq2) (hQ : yQ * yQ = xQ * xQ * xQ + b2)
    (hG : InG2 (twPt (xQ, yQ))) :
    G2m.miller_loop (⟨xQ, yQ, 1⟩ : G2) P = .ok (-specMNaf (lineAt P.x P.y) (twPt (xQ, yQ))) := by
  obtain ⟨t1, t2, t3, t4⟩ := hG.tail (twPt_ne_zero _ hQ)
  have hp1 := frobTwist_equation (xQ, yQ) hQ
  have hR1 : Rep (G2m.point_pi1 (affG2 (xQ, yQ))) (frobHom (twPt (xQ, yQ))) :=
    frobHom_twPt (xQ, yQ) hQ ▸ rep_of_affine _ (point_pi1_affine xQ yQ).1 _ hp1 (point_pi1_affine xQ yQ).2
  have hR2 : Rep (G2m.point_pi2 (affG2 (xQ, yQ))).neg (-frobHom (frobHom (twPt (xQ, yQ)))) := by
    rw [frobHom_twPt (xQ, yQ) hQ, frobHom_twPt _ hp1]
    exact (rep_of_affine _ (point_pi2_affine xQ yQ).1 _ (frobTwist_equation _ hp1) (point_pi2_affine xQ yQ).2).neg
  have hl := loopNaf_refines P (xQ, yQ) hQ hG.1
  show G2m.miller_loop (affG2 (xQ, yQ)) P = _
  rw [miller_loop_eq (affG2 (xQ, yQ)) P _ rfl]
  unfold specMNaf specTail
  simp only
  -- the two folds are named before anything is compared: unifying them unfolded does not end
  generalize Consts.SM9_LOOP_COUNT.foldl (G2m.millerStep (affG2 (xQ, yQ)) (affG2 (xQ, yQ)).neg P)
    (affG2 (xQ, yQ), Fq12.one, Fq12.one) = C at hl ⊢
  generalize specLoopNaf (Jac.Wb b2) (lineAt P.x P.y) (twPt (xQ, yQ)) Consts.SM9_LOOP_COUNT = St at hl ⊢
  obtain ⟨l1, l2, l3, l4⟩ := hl
  rw [l2] at l1 ⊢
  obtain ⟨u1, u3⟩ := eval_g_line_lineVal P l1 hR1 t1 t2
  obtain ⟨w1, w3⟩ := eval_g_line_lineVal P (l1.add hR1 t1 t2) hR2 t3 (by rw [neg_neg]; exact t4)
  rw [Fq12.inverse_eq_inv _ (mul_ne_zero (mul_ne_zero l3 u1) w1), Outcome.unwrap_some, Outcome.bind_ok]
  simp only [pure, Outcome.ok.injEq]
  rw [l4, u3, w3, show sgn Consts.SM9_LOOP_N = -1 by unfold sgn; rw [if_pos (by decide)]]
  field_simp

/-- **`pairings::pairing`** on arbitrary Jacobian representatives (`Api.pairing` is this function) of
    `P ∈ E(Fq)`, `Q ∈ G2` (neither the identity): the reduced textbook Miller function of the signed-digit chain
    at the points they denote -/
theorem pairing_eq_specM (P : G1) (Q : G2) (hPz : P.z ≠ 0) (hPy : P.y ≠ 0) (hQz : Q.z ≠ 0)
    (hQv : G2.Valid Q) (hG : InG2 (G2.toAff Q)) :
    Pairings.pairing P Q = .ok (specMNaf (lineAt (P.x / P.z ^ 2) (P.y / P.z ^ 3)) (G2.toAff Q) ^ E) := by
  obtain ⟨he, hpt⟩ := twPt_of_valid Q hQz hQv
  rw [← hpt] at hG ⊢
  have hm := naf_miller_eq_specM (⟨P.x / P.z ^ 2, P.y / P.z ^ 3, 1⟩ : G1) _ _ he hG
  have hs := specMNaf_lineAt_ne_zero (P.x / P.z ^ 2) (P.y / P.z ^ 3) (div_ne_zero hPy (pow_ne_zero _ hPz))
    (twPt (Q.x / Q.z ^ 2, Q.y / Q.z ^ 3))
  unfold Pairings.pairing
  rw [G1.to_affine_spec, G2.to_affine_spec, if_neg hPz, if_neg hQz]
  show (G2m.miller_loop ⟨Q.x / Q.z ^ 2, Q.y / Q.z ^ 3, 1⟩ ⟨P.x / P.z ^ 2, P.y / P.z ^ 3, 1⟩ >>= _) = _
  rw [hm, Outcome.bind_ok, Fq12.final_exponentiation_eq_pow _ (neg_ne_zero.mpr hs), Outcome.bind_ok,
    Outcome.unwrap_some, neg_pow, neg_one_pow_final, one_mul]

theorem naf_miller_eq_spec_G2 (P : G1) (xQ yQ : Fq2) (hQ : yQ * yQ = xQ * xQ * xQ + b2)
    (k : Nat) (hk : twPt (xQ, yQ) = k • twPt genXY) :
    G2m.miller_loop (⟨xQ, yQ, 1⟩ : G2) P = .ok (-specMillerNaf P.x P.y xQ yQ) :=
  specMillerNaf_eq_specMNaf P.x P.y xQ yQ hQ ▸ naf_miller_eq_specM P xQ yQ hQ (inG2_of_multiple k (twPt_gen ▸ hk))

/-- in the form of `prepared_miller_eq_spec_G2`: a factor killed by the final exponentiation -/
theorem naf_miller_eq_spec_G2_factor (xP yP : Fq) (xQ yQ : Fq2) (hQ : yQ * yQ = xQ * xQ * xQ + b2)
    (k : Nat) (hk : twPt (xQ, yQ) = k • twPt genXY) :
    ∃ κ : Fq12, κ ^ ((q ^ 12 - 1) / r) = 1 ∧
      G2m.miller_loop (⟨xQ, yQ, 1⟩ : G2) (⟨xP, yP, 1⟩ : G1) = .ok (κ * specMillerNaf xP yP xQ yQ) := by
  refine ⟨-1, neg_one_pow_final, ?_⟩
  rw [naf_miller_eq_spec_G2 _ xQ yQ hQ k hk, neg_one_mul]

/-- **`sm9_core::pairing`** for any Jacobian representatives of a point `P ≠ O` of `E(Fq)` and a
    point `Q ≠ O` of `⟨P2⟩` -/
theorem api_pairing_eq_spec_G2 (P : G1) (Q : G2) (hPz : P.z ≠ 0) (hPv : G1.Valid P) (hQz : Q.z ≠ 0)
    (hQv : G2.Valid Q) (k : Nat) (hk : G2.toAff Q = k • G2.toAff (G.one : G2)) :
    Api.pairing P Q
      = .ok (specMillerNaf (P.x / P.z ^ 2) (P.y / P.z ^ 3) (Q.x / Q.z ^ 2) (Q.y / Q.z ^ 3) ^ ((q ^ 12 - 1) / r)) := by
  obtain ⟨he, hpt⟩ := twPt_of_valid Q hQz hQv
  rw [specMillerNaf_eq_specMNaf _ _ _ _ he, hpt]
  exact pairing_eq_specM P Q hPz (Jac.y_ne_zero b1 Fq.no_two_torsion P (hPv.resolve_left hPz))
    hQz hQv (inG2_of_multiple k hk)

theorem pairing_affine_eq_specM (xP yP : Fq) (hyP : yP ≠ 0) (xQ yQ : Fq2)
    (hQ : yQ * yQ = xQ * xQ * xQ + b2) (hG : InG2 (twPt (xQ, yQ))) :
    Pairings.pairing (⟨xP, yP, 1⟩ : G1) (⟨xQ, yQ, 1⟩ : G2)
      = .ok (specMillerNaf xP yP xQ yQ ^ ((q ^ 12 - 1) / r)) := by
  have h := pairing_eq_specM (⟨xP, yP, 1⟩ : G1) (⟨xQ, yQ, 1⟩ : G2)
    (by decide +kernel : (1 : Fq) ≠ 0) hyP (one_ne_zero : (1 : Fq2) ≠ 0) (G2.valid_of_equation xQ yQ hQ) hG
  simp only [one_pow, div_one] at h
  rw [specMillerNaf_eq_specMNaf _ _ _ _ hQ]
  exact h

/-- the refinement for every twist point of order `r`, **conditional on `TorsionCyclic`** (the
    `r`-torsion of `E′(Fq2)` is `⟨P2⟩`, `MillerFrobenius.lean`; exactly that hypothesis is missing for
    the unconditional statement) -/
theorem naf_miller_eq_spec_order_r_partial (hcyc : TorsionCyclic) (P : G1) (xQ yQ : Fq2)
    (hQ : yQ * yQ = xQ * xQ * xQ + b2) (hord : r • twPt (xQ, yQ) = 0) :
    G2m.miller_loop (⟨xQ, yQ, 1⟩ : G2) P = .ok (-specMillerNaf P.x P.y xQ yQ) :=
  specMillerNaf_eq_specMNaf P.x P.y xQ yQ hQ ▸ naf_miller_eq_specM P xQ yQ hQ (hcyc.inG2 (xQ, yQ) hQ hord)

theorem pairing_eq_spec_order_r_partial (hcyc : TorsionCyclic) (xP yP : Fq) (hyP : yP ≠ 0) (xQ yQ : Fq2)
    (hQ : yQ * yQ = xQ * xQ * xQ + b2) (hord : r • twPt (xQ, yQ) = 0) :
    Pairings.pairing (⟨xP, yP, 1⟩ : G1) (⟨xQ, yQ, 1⟩ : G2)
      = .ok (specMillerNaf xP yP xQ yQ ^ ((q ^ 12 - 1) / r)) :=
  pairing_affine_eq_specM xP yP hyP xQ yQ hQ (hcyc.inG2 (xQ, yQ) hQ hord)

/-- the two entry points agree on `(P, Q)` exactly when the two textbook Miller functions (signed-digit
    chain / binary chain) have the same reduced value there.  The right-hand side holds for all `P`, `Q`:
    chain independence of Miller functions, `Sm9/Proofs/ChainIndepSm9.lean`. -/
theorem api_pairing_eq_fast_pairing_iff (P : G1) (Q : G2) (hPz : P.z ≠ 0) (hPv : G1.Valid P) (hQz : Q.z ≠ 0)
    (hQv : G2.Valid Q) (k : Nat) (hk : G2.toAff Q = k • G2.toAff (G.one : G2)) :
    Api.pairing P Q = Api.fast_pairing P Q ↔
      specMillerNaf (P.x / P.z ^ 2) (P.y / P.z ^ 3) (Q.x / Q.z ^ 2) (Q.y / Q.z ^ 3) ^ ((q ^ 12 - 1) / r)
        = specMiller (P.x / P.z ^ 2) (P.y / P.z ^ 3) (Q.x / Q.z ^ 2) (Q.y / Q.z ^ 3) ^ ((q ^ 12 - 1) / r) := by
  rw [api_pairing_eq_spec_G2 P Q hPz hPv hQz hQv k hk, api_fast_pairing_eq_spec_G2 P Q hPz hPv hQz hQv k hk,
    Outcome.ok.injEq]

example (xP yP : Fq) (hyP : yP ≠ 0) :
    Pairings.pairing (⟨xP, yP, 1⟩ : G1) (⟨genXY.1, genXY.2, 1⟩ : G2)
      = .ok (specMillerNaf xP yP genXY.1 genXY.2 ^ ((q ^ 12 - 1) / r)) :=
  pairing_affine_eq_specM xP yP hyP genXY.1 genXY.2 gen_on_twist (twPt_gen ▸ inG2_gen)

end Miller
end Sm9
