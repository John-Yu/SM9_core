import Sm9.Model.Mont
import Sm9.Proofs.MontBasic
import Sm9.Proofs.MontMul
import Sm9.Proofs.Machine
import Mathlib.Tactic.Ring
import Mathlib.Data.Nat.ModEq
import Mathlib.Data.Nat.Prime.Basic
import Mathlib.Data.ZMod.Defs
/-!
# Montgomery form is a ring isomorphism

For a well-formed parameter set (`MontParams.Ok`: 2²⁵⁵ < p < 2²⁵⁶ odd, `inv`, `R² mod p`, `R mod p`) multiplication by
`R = 2²⁵⁶` is injective on `[0, p)`, so `Fp.new_mul_factor` (`·R`) and `Fp.into_u256` (`·R⁻¹`) are inverse bijections of
`[0, p)` that carry `Fp.mul` to the product and `Fp.add` to the sum.  A stored value `x < p` denotes
`Fp.ofMont P x = x·R⁻¹` in `Fin p`; `Fp.Rep P x a` says that `x` is canonical and denotes `a`, and every ring operation
of the limb model takes `Rep` to `Rep`.  Stored values are natural numbers (`U256.limbs` splits them where a proof needs
limbs); `Fin P.modulus` needs `[NeZero P.modulus]`, a section variable from `ofMont` on, with instances for `paramsQ`, `paramsR`.
-/

namespace Sm9

/-- well-formedness of a Montgomery parameter set (all fields kernel-checkable) -/
structure MontParams.Ok (P : MontParams) : Prop where
  lt : P.modulus < W256
  gt : W256 < 2 * P.modulus
  odd : P.modulus % 2 = 1
  inv : (P.modulus * P.inv) % 2 ^ 64 = 2 ^ 64 - 1
  rsq : P.rsquared = (W256 * W256) % P.modulus
  one : P.one = W256 % P.modulus

theorem paramsQ_ok : paramsQ.Ok := by
  refine ⟨?_, ?_, ?_, ?_, ?_, ?_⟩ <;> decide +kernel

theorem paramsR_ok : paramsR.Ok := by
  refine ⟨?_, ?_, ?_, ?_, ?_, ?_⟩ <;> decide +kernel

namespace MontParams.Ok
variable {P : MontParams}

theorem pos (hP : P.Ok) : 0 < P.modulus := by have := hP.odd; omega

theorem one_lt_modulus (hP : P.Ok) : 1 < P.modulus := by
  have := hP.gt
  have hW : W256 = 2 * 2 ^ 255 := rfl
  omega

theorem rsquared_lt (hP : P.Ok) : P.rsquared < P.modulus := hP.rsq ▸ Nat.mod_lt _ hP.pos

end MontParams.Ok

namespace Fp
variable {P : MontParams}

theorem coprime_W256 (hP : P.Ok) : Nat.Coprime P.modulus W256 := by
  unfold W256
  exact Nat.Coprime.pow_right 256 (Nat.coprime_two_right.mpr (Nat.odd_iff.mpr hP.odd))

theorem eq_of_mul_W256 (hP : P.Ok) {r s : Nat} (hr : r < P.modulus) (hs : s < P.modulus)
    (h : (r * W256) % P.modulus = (s * W256) % P.modulus) : r = s := by
  have h1 : r ≡ s [MOD P.modulus] :=
    Nat.ModEq.cancel_right_of_coprime (coprime_W256 hP) h
  have h2 : r % P.modulus = s % P.modulus := h1
  rwa [Nat.mod_eq_of_lt hr, Nat.mod_eq_of_lt hs] at h2

theorem mul_refines (hP : P.Ok) (a b : Nat) (ha : a < P.modulus) (hb : b < P.modulus) :
    mul P a b < P.modulus ∧ (mul P a b * W256) % P.modulus = (a * b) % P.modulus :=
  U256.mul_refines a b P.modulus P.inv hP.lt hP.gt hP.inv ha hb

theorem mul_refines_q (a b : Nat) (ha : a < Consts.FQ) (hb : b < Consts.FQ) :
    mul paramsQ a b < Consts.FQ ∧ (mul paramsQ a b * W256) % Consts.FQ = (a * b) % Consts.FQ :=
  mul_refines paramsQ_ok a b ha hb

theorem mul_refines_r (a b : Nat) (ha : a < Consts.FR) (hb : b < Consts.FR) :
    mul paramsR a b < Consts.FR ∧ (mul paramsR a b * W256) % Consts.FR = (a * b) % Consts.FR :=
  mul_refines paramsR_ok a b ha hb

theorem squared_eq_mul (P : MontParams) (a : Nat) : squared P a = mul P a a :=
  U256.square_eq_mul a P.modulus P.inv

theorem squared_refines (hP : P.Ok) (a : Nat) (ha : a < P.modulus) :
    squared P a < P.modulus ∧ (squared P a * W256) % P.modulus = (a * a) % P.modulus := by
  rw [squared_eq_mul]; exact mul_refines hP a a ha ha

theorem into_u256_refines (hP : P.Ok) (x : Nat) (hx : x < P.modulus) :
    into_u256 P x < P.modulus ∧ (into_u256 P x * W256) % P.modulus = x := by
  have := U256.mul_refines x 1 P.modulus P.inv hP.lt hP.gt hP.inv hx hP.one_lt_modulus
  rw [mul_one, Nat.mod_eq_of_lt hx] at this
  exact this

theorem new_mul_factor_eq (hP : P.Ok) (x : Nat) (hx : x < P.modulus) :
    new_mul_factor P x = (x * W256) % P.modulus := by
  obtain ⟨h1, h2⟩ :=
    U256.mul_refines x P.rsquared P.modulus P.inv hP.lt hP.gt hP.inv hx hP.rsquared_lt
  apply eq_of_mul_W256 hP h1 (Nat.mod_lt _ hP.pos)
  show (U256.mul x P.rsquared P.modulus P.inv * W256) % P.modulus = _
  rw [h2, hP.rsq, Nat.mul_mod_mod, Nat.mod_mul_mod, mul_assoc]

theorem new_mul_factor_lt (hP : P.Ok) (x : Nat) (hx : x < P.modulus) :
    new_mul_factor P x < P.modulus := by
  rw [new_mul_factor_eq hP x hx]; exact Nat.mod_lt _ (by omega)

theorem new_eq (hP : P.Ok) (x : Nat) :
    new P x = if x < P.modulus then some ((x * W256) % P.modulus) else none := by
  unfold new
  split
  · next hx =>
    congr 1
    by_cases h0 : x = 0
    · subst h0; simp
    · have : (x != 0) = true := by simp [h0]
      rw [this, if_pos rfl]
      exact new_mul_factor_eq hP x hx
  · rfl

theorem into_u256_new_mul_factor (hP : P.Ok) (x : Nat) (hx : x < P.modulus) :
    into_u256 P (new_mul_factor P x) = x := by
  obtain ⟨h1, h2⟩ := into_u256_refines hP _ (new_mul_factor_lt hP x hx)
  apply eq_of_mul_W256 hP h1 hx
  rw [h2, new_mul_factor_eq hP x hx]

theorem new_mul_factor_into_u256 (hP : P.Ok) (x : Nat) (hx : x < P.modulus) :
    new_mul_factor P (into_u256 P x) = x := by
  obtain ⟨h1, h2⟩ := into_u256_refines hP x hx
  rw [new_mul_factor_eq hP _ h1, h2]

theorem into_u256_mul (hP : P.Ok) (a b : Nat) (ha : a < P.modulus) (hb : b < P.modulus) :
    into_u256 P (mul P a b) = (into_u256 P a * into_u256 P b) % P.modulus := by
  have hpos := hP.pos
  obtain ⟨hm1, hm2⟩ := mul_refines hP a b ha hb
  obtain ⟨hi1, hi2⟩ := into_u256_refines hP _ hm1
  obtain ⟨ha1, ha2⟩ := into_u256_refines hP a ha
  obtain ⟨hb1, hb2⟩ := into_u256_refines hP b hb
  apply eq_of_mul_W256 hP hi1 (Nat.mod_lt _ hpos)
  apply eq_of_mul_W256 hP (Nat.mod_lt _ hpos) (Nat.mod_lt _ hpos)
  rw [hi2, hm2]
  have e : (into_u256 P a * into_u256 P b) % P.modulus * W256 % P.modulus * W256
      ≡ into_u256 P a * into_u256 P b * W256 * W256 [MOD P.modulus] :=
    ((Nat.mod_modEq _ _).trans ((Nat.mod_modEq _ _).mul_right _)).mul_right _
  have : into_u256 P a * into_u256 P b * W256 * W256
      = (into_u256 P a * W256) * (into_u256 P b * W256) := by ring
  rw [show _ % P.modulus = _ % P.modulus from e, this, Nat.mul_mod (into_u256 P a * W256), ha2, hb2]

theorem mul_new_mul_factor (hP : P.Ok) (x y : Nat) (hx : x < P.modulus) (hy : y < P.modulus) :
    mul P (new_mul_factor P x) (new_mul_factor P y) = new_mul_factor P ((x * y) % P.modulus) := by
  have hpos := hP.pos
  have hxy := Nat.mod_lt (x * y) hpos
  have hnx := new_mul_factor_lt hP x hx
  have hny := new_mul_factor_lt hP y hy
  obtain ⟨hm1, -⟩ := mul_refines hP _ _ hnx hny
  rw [← new_mul_factor_into_u256 hP _ hm1, into_u256_mul hP _ _ hnx hny,
    into_u256_new_mul_factor hP x hx, into_u256_new_mul_factor hP y hy]

theorem into_lt (hP : P.Ok) (x : Nat) (hx : x < P.modulus) : into_u256 P x < P.modulus :=
  (into_u256_refines hP x hx).1

theorem into_mulW (hP : P.Ok) (x : Nat) (hx : x < P.modulus) : (into_u256 P x * W256) % P.modulus = x :=
  (into_u256_refines hP x hx).2

theorem into_eq_of (hP : P.Ok) (x v : Nat) (hx : x < P.modulus) (hv : v < P.modulus)
    (h : (v * W256) % P.modulus = x) : into_u256 P x = v :=
  eq_of_mul_W256 hP (into_lt hP x hx) hv (by rw [into_mulW hP x hx, h])

theorem into_inj (hP : P.Ok) (x y : Nat) (hx : x < P.modulus) (hy : y < P.modulus)
    (h : into_u256 P x = into_u256 P y) : x = y := by
  rw [← into_mulW hP x hx, ← into_mulW hP y hy, h]

theorem into_zero (hP : P.Ok) : into_u256 P 0 = 0 :=
  into_eq_of hP 0 0 hP.pos hP.pos (by simp)

theorem one_lt (hP : P.Ok) : P.one < P.modulus := hP.one ▸ Nat.mod_lt _ hP.pos

theorem into_one (hP : P.Ok) : into_u256 P P.one = 1 :=
  into_eq_of hP _ 1 (one_lt hP) hP.one_lt_modulus (by rw [one_mul, hP.one])

theorem into_mulW_mod (hP : P.Ok) (v : Nat) (hv : v < P.modulus) : into_u256 P (v * W256 % P.modulus) = v :=
  into_eq_of hP _ v (Nat.mod_lt _ hP.pos) hv rfl

/-- `into_u256` is additive: the one fact behind `add`, `sub`, `neg` and `double` -/
theorem into_add_of (hP : P.Ok) {x y z : Nat} (hx : x < P.modulus) (hy : y < P.modulus)
    (hz : z < P.modulus) (h : (x + y) % P.modulus = z) :
    (into_u256 P x + into_u256 P y) % P.modulus = into_u256 P z := by
  refine (into_eq_of hP z _ hz (Nat.mod_lt _ hP.pos) ?_).symm
  rw [Nat.mod_mul_mod, add_mul, Nat.add_mod, into_mulW hP x hx, into_mulW hP y hy, h]

/-- `new_mul_factor` (= `U256::mul(x, R²)`) on a 256-bit integer that need not be reduced: the 32-byte path of
    `Fr/Fq::from_slice`, and `set_bit` -/
theorem new_mul_factor_reduces (hP : P.Ok) (x : Nat) (hx : x < W256) :
    new_mul_factor P x < P.modulus ∧ into_u256 P (new_mul_factor P x) = x % P.modulus := by
  have hab : x * P.rsquared < P.modulus * W256 :=
    lt_of_lt_of_le (Nat.mul_lt_mul_of_lt_of_le hx hP.rsquared_lt.le hP.pos) (Nat.mul_comm _ _).le
  obtain ⟨h1, h2⟩ := U256.mul_refines_gen x P.rsquared P.modulus P.inv hP.lt hP.inv hx
    (lt_trans hP.rsquared_lt hP.lt) hab
  refine ⟨h1, into_eq_of hP _ _ h1 (Nat.mod_lt _ hP.pos) ?_⟩
  -- both sides are `x·R²·R⁻¹`: cancel one more `R`
  refine eq_of_mul_W256 hP (Nat.mod_lt _ hP.pos) h1 ?_
  rw [show new_mul_factor P x * W256 % P.modulus = _ from h2, hP.rsq, Nat.mod_mul_mod, mul_assoc,
    Nat.mod_mul_mod, Nat.mul_mod_mod]

theorem new_of_lt (hP : P.Ok) (x : Nat) (hx : x < P.modulus) :
    ∃ y, new P x = some y ∧ y < P.modulus ∧ into_u256 P y = x :=
  ⟨_, by rw [new_eq hP, if_pos hx], Nat.mod_lt _ hP.pos, into_mulW_mod hP x hx⟩

theorem into_squared (hP : P.Ok) (a : Nat) (ha : a < P.modulus) :
    squared P a < P.modulus ∧ into_u256 P (squared P a) = (into_u256 P a * into_u256 P a) % P.modulus :=
  squared_eq_mul P a ▸ ⟨(mul_refines hP a a ha ha).1, into_u256_mul hP a a ha ha⟩

example : U256.mul 2 3 Consts.FQ Consts.FQ_INV < Consts.FQ ∧
    (U256.mul 2 3 Consts.FQ Consts.FQ_INV * W256) % Consts.FQ = 6 % Consts.FQ :=
  mul_refines_q 2 3 (by decide +kernel) (by decide +kernel)

example : mul paramsQ (one paramsQ) (one paramsQ) = one paramsQ := by decide +kernel
example : squared paramsR (one paramsR) = one paramsR := by decide +kernel

end Fp

instance : NeZero paramsQ.modulus := ⟨paramsQ_ok.pos.ne'⟩
instance : NeZero paramsR.modulus := ⟨paramsR_ok.pos.ne'⟩

section ofNat
variable {n : Nat} [NeZero n]

theorem Fin.ofNat_mod (a : Nat) : Fin.ofNat n (a % n) = Fin.ofNat n a := Fin.ext (Nat.mod_mod _ _)

theorem Fin.ofNat_add' (a b : Nat) : Fin.ofNat n (a + b) = Fin.ofNat n a + Fin.ofNat n b :=
  Fin.ext (by rw [Fin.val_add, Fin.val_ofNat, Fin.val_ofNat, Fin.val_ofNat, Nat.add_mod])

theorem Fin.ofNat_mul' (a b : Nat) : Fin.ofNat n (a * b) = Fin.ofNat n a * Fin.ofNat n b :=
  Fin.ext (by rw [Fin.val_mul, Fin.val_ofNat, Fin.val_ofNat, Fin.val_ofNat, Nat.mul_mod])

end ofNat

namespace Fp
variable {P : MontParams}
variable [NeZero P.modulus]

def ofMont (P : MontParams) [NeZero P.modulus] (x : Nat) : Fin P.modulus := Fin.ofNat _ (into_u256 P x)

def Rep (P : MontParams) [NeZero P.modulus] (x : Nat) (a : Fin P.modulus) : Prop :=
  x < P.modulus ∧ ofMont P x = a

/-- the shape in which the translated `lib.rs` wrappers state `OptRel (Rep P) o w` -/
theorem _root_.Sm9.OptRel.map_ofMont {o : Option Nat} {w : Option (Fin P.modulus)} (h : OptRel (Rep P) o w) :
    o.map (ofMont P) = w ∧ ∀ y, o = some y → y < P.modulus :=
  h.cases ⟨rfl, nofun⟩ fun _ _ hr => ⟨congrArg some hr.2, fun _ e => Option.some.inj e ▸ hr.1⟩

namespace Rep
variable {x y : Nat} {a b : Fin P.modulus}

theorem of_into (hx : x < P.modulus) {n : Nat} (h : into_u256 P x = n % P.modulus) : Rep P x (Fin.ofNat _ n) :=
  ⟨hx, by unfold ofMont; rw [h, Fin.ofNat_mod]⟩

theorem val (hP : P.Ok) (hx : Rep P x a) : into_u256 P x = a.val := by
  rw [← hx.2, ofMont, Fin.val_ofNat, Nat.mod_eq_of_lt (into_lt hP x hx.1)]

theorem inj (hP : P.Ok) (hx : Rep P x a) (hy : Rep P y b) : x = y ↔ a = b :=
  ⟨fun e => by rw [← hx.2, ← hy.2, e], fun e => into_inj hP x y hx.1 hy.1 (by rw [hx.val hP, hy.val hP, e])⟩

theorem zero (hP : P.Ok) : Rep P 0 0 :=
  ⟨hP.pos, by unfold ofMont; rw [into_zero hP]; rfl⟩

theorem one (hP : P.Ok) : Rep P P.one 1 :=
  ⟨one_lt hP, by unfold ofMont; rw [into_one hP]; rfl⟩

theorem is_zero (hP : P.Ok) (hx : Rep P x a) : Fp.is_zero x = (a.val == 0) := by
  rw [← hx.val hP, Bool.eq_iff_iff, Fp.is_zero, beq_iff_eq, beq_iff_eq]
  exact ⟨fun h => by rw [h, into_zero hP], fun h => into_inj hP x 0 hx.1 hP.pos (h.trans (into_zero hP).symm)⟩

/-- the shape shared by `add`, `sub`, `neg`, `double`: `x + y ≡ z` on representatives gives `a + b` -/
theorem add_of (hP : P.Ok) {z : Nat} (hx : Rep P x a) (hy : Rep P y b) (hz : z < P.modulus)
    (h : (x + y) % P.modulus = z) : ofMont P z = a + b := by
  rw [← hx.2, ← hy.2]
  unfold ofMont
  rw [← Fin.ofNat_add', ← Fin.ofNat_mod (_ + _), into_add_of hP hx.1 hy.1 hz h]

theorem add (hP : P.Ok) (hx : Rep P x a) (hy : Rep P y b) : Rep P (Fp.add P x y) (a + b) :=
  have h := U256.add_refines x y P.modulus hP.lt hP.gt hx.1 hy.1
  ⟨h.1, add_of hP hx hy h.1 h.2.symm⟩

theorem sub (hP : P.Ok) (hx : Rep P x a) (hy : Rep P y b) : Rep P (Fp.sub P x y) (a - b) :=
  have h := U256.sub_refines x y P.modulus hP.lt hx.1 hy.1
  ⟨h.1, eq_sub_of_add_eq ((add_of hP ⟨h.1, rfl⟩ hy hx.1 h.2).symm.trans hx.2)⟩

theorem neg (hP : P.Ok) (hx : Rep P x a) : Rep P (Fp.neg P x) (-a) :=
  have h := U256.neg_refines x P.modulus hP.lt hx.1
  ⟨h.1, eq_neg_of_add_eq_zero_left ((add_of hP ⟨h.1, rfl⟩ hx hP.pos h.2).symm.trans (zero hP).2)⟩

theorem double (hP : P.Ok) (hx : Rep P x a) : Rep P (Fp.double P x) (a + a) :=
  have h := U256.mul2_refines x P.modulus hP.lt hx.1
  ⟨h.1, add_of hP hx hx h.1 (by rw [← two_mul]; exact h.2.symm)⟩

/-- halving, read backwards: the value-level `div2` is per field -/
theorem div2_add_self (hP : P.Ok) (hx : Rep P x a) :
    Fp.div2 P x < P.modulus ∧ ofMont P (Fp.div2 P x) + ofMont P (Fp.div2 P x) = a :=
  have h := U256.div2_refines x P.modulus hP.lt hP.gt hP.odd hx.1
  ⟨h.1, (add_of hP ⟨h.1, rfl⟩ ⟨h.1, rfl⟩ hx.1 (by rw [← two_mul]; exact h.2)).symm.trans hx.2⟩

theorem mul (hP : P.Ok) (hx : Rep P x a) (hy : Rep P y b) : Rep P (Fp.mul P x y) (a * b) :=
  ⟨(mul_refines hP x y hx.1 hy.1).1, by
    rw [← hx.2, ← hy.2]; unfold ofMont
    rw [into_u256_mul hP x y hx.1 hy.1, Fin.ofNat_mod, Fin.ofNat_mul']⟩

theorem squared (hP : P.Ok) (hx : Rep P x a) : Rep P (Fp.squared P x) (a * a) :=
  squared_eq_mul P x ▸ hx.mul hP hx

theorem ite {c : Prop} [Decidable c] {u v : Nat} {u' v' : Fin P.modulus} (h1 : Rep P u u') (h2 : Rep P v v') :
    Rep P (if c then u else v) (if c then u' else v') := by
  split <;> assumption

/-- stated in fold form (the schedule of the value-level `pow`): the kernel otherwise evaluates the stuck
    Montgomery product when comparing the two `npow` paths -/
theorem pow (hP : P.Ok) (hx : Rep P x a) (e : Nat) :
    Rep P (Fp.pow P x e)
      ((bitsMSB (into_u256 P e)).foldl (fun res i => let res := res * res; if i then res * a else res) 1) :=
  List.foldl_rel (r := Rep P)
    (f := fun res (i : Bool) => let res := Fp.squared P res; if i then Fp.mul P res x else res)
    (g := fun res (i : Bool) => let res := res * res; if i then res * a else res)
    (one hP) fun _ _ _ _ hs => ite ((hs.squared hP).mul hP hx) (hs.squared hP)

/-- the exponent of `pow` is itself a stored value: it is read through `into_u256` -/
theorem pow_rep (hP : P.Ok) (hx : Rep P x a) (hy : Rep P y b) :
    Rep P (Fp.pow P x y)
      ((bitsMSB b.val).foldl (fun res i => let res := res * res; if i then res * a else res) 1) :=
  hy.val hP ▸ hx.pow hP y

/-- `n·R mod p`, which `new`, the strict decoder and `new_mul_factor` return, is the stored form of `n mod p` -/
theorem enc (hP : P.Ok) (n : Nat) : Rep P (n * W256 % P.modulus) (Fin.ofNat _ n) :=
  of_into (Nat.mod_lt _ hP.pos) (by rw [← Nat.mod_mul_mod, into_mulW_mod hP _ (Nat.mod_lt _ hP.pos)])

theorem new_mul_factor (hP : P.Ok) {v : Nat} (hv : v < W256) : Rep P (Fp.new_mul_factor P v) (Fin.ofNat _ v) :=
  have h := new_mul_factor_reduces hP v hv
  of_into h.1 h.2

theorem fresh (hP : P.Ok) (a : Fin P.modulus) : Rep P (Fp.new_mul_factor P a.val) a := by
  have h := new_mul_factor hP (a.isLt.trans hP.lt)
  rwa [Fin.ofNat_val_eq_self] at h

theorem mul_R (hP : P.Ok) (hx : Rep P x a) : a * Fin.ofNat _ W256 = Fin.ofNat _ x := by
  rw [← hx.2, ofMont, ← Fin.ofNat_mul', ← Fin.ofNat_mod, into_mulW hP x hx.1]

end Rep

end Fp

end Sm9
