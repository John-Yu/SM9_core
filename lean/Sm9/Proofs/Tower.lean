import Sm9.Proofs.FqField
import Sm9.Model.Tower
/-!
# Ring structure of the tower on the model's own operations

`CommRing Fq2`, `CommRing Fq4`, `CommRing Fq12` whose `+ - * 0 1 neg` **are** the model's
`add_inplace … mul_inplace` (sum-of-products, interleaved, Karatsuba).  Every ring axiom
is therefore a statement about the multiplication algorithm as coded.
-/
namespace Sm9

namespace Outcome
/- these three hold by `rfl`, but are deliberately *not* stated as `rfl`-lemmas: `simp` would then
   use them definitionally and leave the kernel to re-check large defeq problems around
   `y ^ (huge exponent)`; with an opaque proof term the kernel only matches instances
   syntactically.  `unwrap_some` is a simp lemma for the generated limb-level proofs. -/
theorem bind_ok {α β} (a : α) (f : α → Outcome β) : (Outcome.ok a >>= f) = f a :=
  id (Eq.refl (f a))
@[simp] theorem unwrap_some {α} (a : α) : Outcome.unwrap (some a) = .ok a := id (Eq.refl _)
theorem pure_eq {α} (a : α) : (pure a : Outcome α) = .ok a := id (Eq.refl _)
end Outcome

@[simp] theorem Fq.sop2 (a0 a1 b0 b1 : Fq) :
    Fq.sum_of_products [a0, a1] [b0, b1] = a0 * b0 + a1 * b1 := by
  simp [Fq.sum_of_products]
@[simp] theorem Fq.sop4 (a0 a1 a2 a3 b0 b1 b2 b3 : Fq) :
    Fq.sum_of_products [a0, a1, a2, a3] [b0, b1, b2, b3] = a0 * b0 + a1 * b1 + a2 * b2 + a3 * b3 := by
  simp [Fq.sum_of_products]
@[simp] theorem Fq.double_def (a : Fq) : a.double = a + a := rfl
@[simp] theorem Fq.triple_def (a : Fq) : a.triple = a + a + a := rfl
@[simp] theorem Fq.squared_def (a : Fq) : a.squared = a * a := rfl
theorem Fq.beq_iff (a b : Fq) : FieldElement.beq a b = true ↔ a = b := decide_eq_true_iff

namespace Fq2
@[ext] theorem ext {a b : Fq2} (h0 : a.c0 = b.c0) (h1 : a.c1 = b.c1) : a = b := by
  cases a; cases b; simp_all
@[simp] theorem add_c0 (a b : Fq2) : (a + b).c0 = a.c0 + b.c0 := rfl
@[simp] theorem add_c1 (a b : Fq2) : (a + b).c1 = a.c1 + b.c1 := rfl
@[simp] theorem sub_c0 (a b : Fq2) : (a - b).c0 = a.c0 - b.c0 := rfl
@[simp] theorem sub_c1 (a b : Fq2) : (a - b).c1 = a.c1 - b.c1 := rfl
@[simp] theorem neg_c0 (a : Fq2) : (-a).c0 = -a.c0 := rfl
@[simp] theorem neg_c1 (a : Fq2) : (-a).c1 = -a.c1 := rfl
@[simp] theorem zero_c0 : (0 : Fq2).c0 = 0 := rfl
@[simp] theorem zero_c1 : (0 : Fq2).c1 = 0 := rfl
@[simp] theorem one_c0 : (1 : Fq2).c0 = 1 := rfl
@[simp] theorem one_c1 : (1 : Fq2).c1 = 0 := rfl
@[simp] theorem mul_inplace_eq (a b : Fq2) : a.mul_inplace b = a * b := rfl
@[simp] theorem mul_c0 (a b : Fq2) : (a * b).c0 = a.c0 * b.c0 + -(a.c1 + a.c1) * b.c1 := by
  show (mul_inplace a b).c0 = _
  simp [mul_inplace]
@[simp] theorem mul_c1 (a b : Fq2) : (a * b).c1 = a.c0 * b.c1 + a.c1 * b.c0 := by
  show (mul_inplace a b).c1 = _
  simp [mul_inplace]

instance instCommRing : CommRing Fq2 where
  add := (· + ·)
  zero := 0
  neg := (- ·)
  sub := (· - ·)
  mul := (· * ·)
  one := 1
  nsmul := nsmulRec
  zsmul := zsmulRec
  npow := npowRec
  add_assoc := by intros; ext <;> simp only [add_c0, add_c1] <;> ring
  zero_add := by intros; ext <;> simp
  add_zero := by intros; ext <;> simp
  add_comm := by intros; ext <;> simp only [add_c0, add_c1] <;> ring
  neg_add_cancel := by intros; ext <;> simp
  sub_eq_add_neg := by intros; ext <;> simp only [sub_c0, sub_c1, add_c0, add_c1, neg_c0, neg_c1] <;> ring
  mul_assoc := by intros; ext <;> simp only [mul_c0, mul_c1] <;> ring
  one_mul := by intros; ext <;> simp
  mul_one := by intros; ext <;> simp
  left_distrib := by intros; ext <;> simp only [mul_c0, mul_c1, add_c0, add_c1] <;> ring
  right_distrib := by intros; ext <;> simp only [mul_c0, mul_c1, add_c0, add_c1] <;> ring
  zero_mul := by intros; ext <;> simp
  mul_zero := by intros; ext <;> simp
  mul_comm := by intros; ext <;> simp only [mul_c0, mul_c1] <;> ring

theorem beq_iff (a b : Fq2) : FieldElement.beq a b = true ↔ a = b := decide_eq_true_iff

theorem is_zero_iff (x : Fq2) : x.is_zero = true ↔ x = 0 := by
  unfold Fq2.is_zero
  rw [Bool.and_eq_true, Fq.is_zero_iff, Fq.is_zero_iff]
  exact ⟨fun ⟨h0, h1⟩ => Fq2.ext h0 h1, fun h => h ▸ ⟨rfl, rfl⟩⟩

theorem i_sq : (Fq2.i * Fq2.i : Fq2) = -(1 + 1) := by
  ext <;> simp [Fq2.i, Fq2.new]

theorem squared_eq_mul (a : Fq2) : a.squared = a * a := by
  ext <;> simp [squared] <;> ring
theorem double_eq (a : Fq2) : a.double = a + a := by ext <;> simp [double]
theorem triple_eq (a : Fq2) : a.triple = a + a + a := by ext <;> simp [triple]
theorem scale_eq (a : Fq2) (k : Fq) : a.scale k = a * Fq2.new k 0 := by
  ext <;> simp [scale, Fq2.new]
theorem mul_by_nonresidue_eq (a : Fq2) : a.mul_by_nonresidue = a * Fq2.i := by
  ext <;> simp [mul_by_nonresidue, Fq2.i, Fq2.new]
end Fq2

namespace Fq4
/-- the generator v with v² = u -/
def v : Fq4 := { c0 := 0, c1 := 1 }

@[ext] theorem ext {a b : Fq4} (h0 : a.c0 = b.c0) (h1 : a.c1 = b.c1) : a = b := by
  cases a; cases b; simp_all
@[simp] theorem add_c0 (a b : Fq4) : (a + b).c0 = a.c0 + b.c0 := rfl
@[simp] theorem add_c1 (a b : Fq4) : (a + b).c1 = a.c1 + b.c1 := rfl
@[simp] theorem sub_c0 (a b : Fq4) : (a - b).c0 = a.c0 - b.c0 := rfl
@[simp] theorem sub_c1 (a b : Fq4) : (a - b).c1 = a.c1 - b.c1 := rfl
@[simp] theorem neg_c0 (a : Fq4) : (-a).c0 = -a.c0 := rfl
@[simp] theorem neg_c1 (a : Fq4) : (-a).c1 = -a.c1 := rfl
@[simp] theorem zero_c0 : (0 : Fq4).c0 = 0 := rfl
@[simp] theorem zero_c1 : (0 : Fq4).c1 = 0 := rfl
@[simp] theorem one_c0 : (1 : Fq4).c0 = 1 := rfl
@[simp] theorem one_c1 : (1 : Fq4).c1 = 0 := rfl
@[simp] theorem mul_inplace_eq (a b : Fq4) : a.mul_inplace b = a * b := rfl
@[simp] theorem mul_c0 (a b : Fq4) : (a * b).c0 = a.c0 * b.c0 + a.c1 * b.c1 * Fq2.i := by
  show (mul_inplace a b).c0 = _
  ext <;> simp [mul_inplace, Fq2.i, Fq2.new] <;> ring
@[simp] theorem mul_c1 (a b : Fq4) : (a * b).c1 = a.c0 * b.c1 + a.c1 * b.c0 := by
  show (mul_inplace a b).c1 = _
  ext <;> simp [mul_inplace] <;> ring

instance instCommRing : CommRing Fq4 where
  add := (· + ·)
  zero := 0
  neg := (- ·)
  sub := (· - ·)
  mul := (· * ·)
  one := 1
  nsmul := nsmulRec
  zsmul := zsmulRec
  npow := npowRec
  add_assoc := by intros; ext : 1 <;> simp only [add_c0, add_c1] <;> ring
  zero_add := by intros; ext : 1 <;> simp
  add_zero := by intros; ext : 1 <;> simp
  add_comm := by intros; ext : 1 <;> simp only [add_c0, add_c1] <;> ring
  neg_add_cancel := by intros; ext : 1 <;> simp
  sub_eq_add_neg := by intros; ext : 1 <;> simp only [sub_c0, sub_c1, add_c0, add_c1, neg_c0, neg_c1] <;> ring
  mul_assoc := by intros; ext : 1 <;> simp only [mul_c0, mul_c1] <;> ring
  one_mul := by intros; ext : 1 <;> simp
  mul_one := by intros; ext : 1 <;> simp
  left_distrib := by intros; ext : 1 <;> simp only [mul_c0, mul_c1, add_c0, add_c1] <;> ring
  right_distrib := by intros; ext : 1 <;> simp only [mul_c0, mul_c1, add_c0, add_c1] <;> ring
  zero_mul := by intros; ext : 1 <;> simp
  mul_zero := by intros; ext : 1 <;> simp
  mul_comm := by intros; ext : 1 <;> simp only [mul_c0, mul_c1] <;> ring

theorem v_sq : (v * v : Fq4) = { c0 := Fq2.i, c1 := 0 } := by
  ext : 1 <;> simp [v]
theorem mul_by_nonresidue_eq (a : Fq4) : a.mul_by_nonresidue = a * v := by
  ext : 1 <;> simp [mul_by_nonresidue, v, Fq2.mul_by_nonresidue_eq]
theorem squared_eq_mul (a : Fq4) : a.squared = a * a := by
  ext : 1 <;> simp [squared, Fq2.mul_by_nonresidue_eq, Fq2.double_eq] <;> ring
theorem double_eq (a : Fq4) : a.double = a + a := by
  ext : 1 <;> simp [double, Fq2.double_eq]
theorem triple_eq (a : Fq4) : a.triple = a + a + a := by
  ext : 1 <;> simp [triple, Fq2.triple_eq]
/-- the sparsity of the operand is a hypothesis, as in the Rust comment -/
theorem mul_1_eq_mul (a b : Fq4) (hb : b.c0 = 0) : a.mul_1 b = a * b := by
  ext : 1 <;> simp [mul_1, hb, Fq2.mul_by_nonresidue_eq]
theorem mul_1_formula (a b : Fq4) : a.mul_1 b = a * { c0 := 0, c1 := b.c1 } := by
  ext : 1 <;> simp [mul_1, Fq2.mul_by_nonresidue_eq]
theorem scale_eq (a : Fq4) (k : Fq2) : a.scale k = a * { c0 := k, c1 := 0 } := by
  ext : 1 <;> simp [scale]
end Fq4

namespace Fq12
@[ext] theorem ext {a b : Fq12} (h0 : a.c0 = b.c0) (h1 : a.c1 = b.c1) (h2 : a.c2 = b.c2) : a = b := by
  cases a; cases b; simp_all
@[simp] theorem add_c0 (a b : Fq12) : (a + b).c0 = a.c0 + b.c0 := rfl
@[simp] theorem add_c1 (a b : Fq12) : (a + b).c1 = a.c1 + b.c1 := rfl
@[simp] theorem add_c2 (a b : Fq12) : (a + b).c2 = a.c2 + b.c2 := rfl
@[simp] theorem sub_c0 (a b : Fq12) : (a - b).c0 = a.c0 - b.c0 := rfl
@[simp] theorem sub_c1 (a b : Fq12) : (a - b).c1 = a.c1 - b.c1 := rfl
@[simp] theorem sub_c2 (a b : Fq12) : (a - b).c2 = a.c2 - b.c2 := rfl
@[simp] theorem neg_c0 (a : Fq12) : (-a).c0 = -a.c0 := rfl
@[simp] theorem neg_c1 (a : Fq12) : (-a).c1 = -a.c1 := rfl
@[simp] theorem neg_c2 (a : Fq12) : (-a).c2 = -a.c2 := rfl
@[simp] theorem zero_c0 : (0 : Fq12).c0 = 0 := rfl
@[simp] theorem zero_c1 : (0 : Fq12).c1 = 0 := rfl
@[simp] theorem zero_c2 : (0 : Fq12).c2 = 0 := rfl
@[simp] theorem one_c0 : (1 : Fq12).c0 = 1 := rfl
@[simp] theorem one_c1 : (1 : Fq12).c1 = 0 := rfl
@[simp] theorem one_c2 : (1 : Fq12).c2 = 0 := rfl
/-- Karatsuba equals the schoolbook product in Fq4[w]/(w³ − v) -/
@[simp] theorem mul_c0 (a b : Fq12) :
    (a * b).c0 = a.c0 * b.c0 + (a.c1 * b.c2 + a.c2 * b.c1) * Fq4.v := by
  show (mul_inplace a b).c0 = _
  simp only [mul_inplace, Fq4.mul_by_nonresidue_eq]
  show ((a.c1 + a.c2) * (b.c1 + b.c2) - a.c1 * b.c1 - a.c2 * b.c2) * Fq4.v + a.c0 * b.c0 = _
  ring
@[simp] theorem mul_c1 (a b : Fq12) :
    (a * b).c1 = a.c0 * b.c1 + a.c1 * b.c0 + a.c2 * b.c2 * Fq4.v := by
  show (mul_inplace a b).c1 = _
  simp only [mul_inplace, Fq4.mul_by_nonresidue_eq]
  show (a.c0 + a.c1) * (b.c0 + b.c1) - a.c0 * b.c0 - a.c1 * b.c1 + a.c2 * b.c2 * Fq4.v = _
  ring
@[simp] theorem mul_c2 (a b : Fq12) :
    (a * b).c2 = a.c0 * b.c2 + a.c1 * b.c1 + a.c2 * b.c0 := by
  show (mul_inplace a b).c2 = _
  simp only [mul_inplace]
  show (a.c0 + a.c2) * (b.c0 + b.c2) - a.c0 * b.c0 + a.c1 * b.c1 - a.c2 * b.c2 = _
  ring

instance instCommRing : CommRing Fq12 where
  add := (· + ·)
  zero := 0
  neg := (- ·)
  sub := (· - ·)
  mul := (· * ·)
  one := 1
  nsmul := nsmulRec
  zsmul := zsmulRec
  npow := npowRec
  add_assoc := by intros; ext : 1 <;> simp only [add_c0, add_c1, add_c2] <;> ring
  zero_add := by intros; ext : 1 <;> simp
  add_zero := by intros; ext : 1 <;> simp
  add_comm := by intros; ext : 1 <;> simp only [add_c0, add_c1, add_c2] <;> ring
  neg_add_cancel := by intros; ext : 1 <;> simp
  sub_eq_add_neg := by intros; ext : 1 <;> simp only [sub_c0, sub_c1, sub_c2, add_c0, add_c1, add_c2, neg_c0, neg_c1, neg_c2] <;> ring
  mul_assoc := by intros; ext : 1 <;> simp only [mul_c0, mul_c1, mul_c2] <;> ring
  one_mul := by intros; ext : 1 <;> simp
  mul_one := by intros; ext : 1 <;> simp
  left_distrib := by intros; ext : 1 <;> simp only [mul_c0, mul_c1, mul_c2, add_c0, add_c1, add_c2] <;> ring
  right_distrib := by intros; ext : 1 <;> simp only [mul_c0, mul_c1, mul_c2, add_c0, add_c1, add_c2] <;> ring
  zero_mul := by intros; ext : 1 <;> simp
  mul_zero := by intros; ext : 1 <;> simp
  mul_comm := by intros; ext : 1 <;> simp only [mul_c0, mul_c1, mul_c2] <;> ring

theorem squared_eq_mul (a : Fq12) : a.squared = a * a := by
  ext : 1 <;> simp [squared, Fq4.mul_by_nonresidue_eq, Fq4.squared_eq_mul, Fq4.double_eq] <;> ring
theorem double_eq (a : Fq12) : a.double = a + a := by
  ext : 1 <;> simp [double, Fq4.double_eq]
theorem mul_015_eq_mul (a b : Fq12) (h1 : b.c1 = 0) (h2 : b.c2.c0 = 0) : a.mul_015 b = a * b := by
  ext : 1 <;> simp [mul_015, h1, Fq4.mul_by_nonresidue_eq, Fq4.mul_1_eq_mul _ _ h2]
  ring
theorem mul_015_formula (a b : Fq12) :
    a.mul_015 b = a * { c0 := b.c0, c1 := 0, c2 := { c0 := 0, c1 := b.c2.c1 } } := by
  ext : 1 <;> simp [mul_015, Fq4.mul_by_nonresidue_eq, Fq4.mul_1_formula]
  ring
theorem scale_eq (a : Fq12) (k : Fq4) : a.scale k = a * { c0 := k, c1 := 0, c2 := 0 } := by
  ext : 1 <;> simp [scale]
end Fq12

end Sm9
