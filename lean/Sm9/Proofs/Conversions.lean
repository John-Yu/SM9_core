import Sm9.Model.Mont
import Sm9.Proofs.MontBasic
import Sm9.Proofs.MontForm
import Sm9.Proofs.Machine
import Sm9.Proofs.Divrem
import Sm9.Proofs.Bytes
import Mathlib.Tactic.Ring
import Mathlib.Tactic.Linarith
import Mathlib.Data.Nat.ModEq
/-!
# Conversions: the limb level computes "big-endian integer mod p"

For every well-formed Montgomery parameter set each decoder of fp.rs / lib.rs (`interpret`, the strict and the reducing
`from_slice`, `from_hash`, `from_str`, `set_bit`, `random`) is stated through `Fp.into_u256`, the canonical value of a
stored representative; `interpret`, the strict `from_slice` and `from_str` also as `Fp.Rep P y (Fin.ofNat _ n)`, "y is the
stored form of n mod p" (the others mention `Model/Api.lean` and have that form in LibScalar).
-/

namespace Sm9

theorem pow256_32 : 256 ^ 32 = W256 := by decide +kernel
theorem pow256_64 : 256 ^ 64 = W512 := by decide +kernel

theorem U256.from_slice_eq (bs : List UInt8) (h : bs.length = 32) : U256.from_slice bs = some (beVal bs) := by
  simp [U256.from_slice, h]

theorem U512.from_slice_eq (bs : List UInt8) (h : bs.length = 64) : U512.from_slice bs = some (beVal bs) := by
  simp [U512.from_slice, h]

namespace Fp
variable {P : MontParams}

/-- `interpret`: the 64-byte path of `from_slice` -/
theorem interpret_spec (hP : P.Ok) (bs : List UInt8) (hlen : bs.length = 64) :
    ∃ y, interpret P bs = .ok y ∧ y < P.modulus ∧ into_u256 P y = beVal bs % P.modulus := by
  obtain ⟨y, hy, hylt, hyv⟩ := new_of_lt hP (beVal bs % P.modulus) (Nat.mod_lt _ hP.pos)
  refine ⟨y, ?_, hylt, hyv⟩
  unfold interpret
  rw [U512.from_slice_eq bs hlen]
  simp only
  rw [U512.divrem_rem (beVal bs) P.modulus hP.pos hP.lt, hy]
  rfl

/-- the `unwrap` of `U512::from_slice` -/
theorem interpret_panic (bs : List UInt8) (hlen : bs.length ≠ 64) : interpret P bs = .panic := by
  unfold interpret U512.from_slice
  simp [hlen]

theorem from_slice_strict_spec (hP : P.Ok) (bs : List UInt8) :
    from_slice P bs = (if bs.length = 32 ∧ beVal bs < P.modulus
      then some (beVal bs * W256 % P.modulus) else none) := by
  unfold from_slice U256.from_slice
  by_cases hlen : bs.length = 32
  · simp only [hlen, bne_self_eq_false, Bool.false_eq_true, if_false, Option.bind_some, true_and]
    exact new_eq hP _
  · have : (bs.length != 32) = true := by simp [hlen]
    simp only [this, if_true, Option.bind_none, hlen, false_and, if_false]

theorem from_slice_strict_value (hP : P.Ok) (bs : List UInt8) (y : Nat)
    (h : from_slice P bs = some y) :
    bs.length = 32 ∧ beVal bs < P.modulus ∧ y < P.modulus ∧ into_u256 P y = beVal bs := by
  rw [from_slice_strict_spec hP] at h
  split at h
  · next hc =>
    rw [Option.some.injEq] at h
    subst h
    exact ⟨hc.1, hc.2, Nat.mod_lt _ hP.pos, into_mulW_mod hP _ hc.2⟩
  · exact absurd h (by simp)

theorem to_slice_spec (P : MontParams) (x : Nat) :
    to_slice P x = beBytes 32 (into_u256 P x) := rfl

theorem to_slice_value (hP : P.Ok) (x : Nat) (hx : x < P.modulus) :
    (to_slice P x).length = 32 ∧ beVal (to_slice P x) = into_u256 P x ∧
    beVal (to_slice P x) < P.modulus := by
  have h1 := into_lt hP x hx
  have hv : beVal (to_slice P x) = into_u256 P x := by
    rw [to_slice_spec, beVal_beBytes _ _ (pow256_32 ▸ lt_trans h1 hP.lt)]
  exact ⟨beBytes_length _ _, hv, hv ▸ h1⟩

theorem from_slice_to_slice (hP : P.Ok) (x : Nat) (hx : x < P.modulus) :
    from_slice P (to_slice P x) = some x := by
  obtain ⟨hl, hv, hlt⟩ := to_slice_value hP x hx
  rw [from_slice_strict_spec hP, if_pos ⟨hl, hlt⟩, hv, into_mulW hP x hx]

theorem set_bit_raw_lt (a i : Nat) (v : Bool) (ha : a < W256) : (U256.set_bit a i v).1 < W256 := by
  unfold U256.set_bit
  split
  · exact ha
  · next h =>
    cases v
    · simp only [Bool.false_eq_true, if_false]
      exact lt_of_le_of_lt Nat.and_le_left ha
    · simp only [if_true]
      rw [Nat.one_shiftLeft]
      exact Nat.or_lt_two_pow ha (Nat.pow_lt_pow_right (by decide) (by omega))

theorem set_bit_spec (hP : P.Ok) (x i : Nat) (v : Bool) (hx : x < P.modulus) :
    into_u256 P (set_bit P x i v) = (U256.set_bit (into_u256 P x) i v).1 % P.modulus ∧
    set_bit P x i v < P.modulus :=
  (new_mul_factor_reduces hP _
    (set_bit_raw_lt (into_u256 P x) i v (lt_trans (into_lt hP x hx) hP.lt))).symm

/-- no precondition on the draw: the remainder part of `divrem` does not need the 512-bit bound -/
theorem random_spec (hP : P.Ok) (draw : List Nat) :
    random P draw = Limb.value B64 (draw.take 8) % P.modulus ∧ random P draw < P.modulus := by
  have h := U512.divrem_rem (Limb.value B64 (draw.take 8)) P.modulus hP.pos hP.lt
  exact ⟨h, by unfold random; rw [h]; exact Nat.mod_lt _ hP.pos⟩

end Fp

namespace FrL

theorem minus_one_value : Fp.into_u256 paramsR (Fp.neg paramsR (Fp.one paramsR)) = Consts.FR - 1 := by
  decide +kernel

theorem from_hash_too_long (ha : List UInt8) (h : ha.length > 64) : from_hash ha = .ok none := by
  unfold from_hash
  rw [if_pos h]

/-- `Fr::from_hash` (H1, H2 of the standard): `(Ha mod (n-1)) + 1` -/
theorem from_hash_spec (ha : List UInt8) (hlen : ha.length ≤ 64) :
    ∃ y, from_hash ha = .ok (some y) ∧ y < Consts.FR ∧
      Fp.into_u256 paramsR y = beVal ha % (Consts.FR - 1) + 1 := by
  have hP := paramsR_ok
  have hFR : 2 < Consts.FR := by decide +kernel
  have hFRW : Consts.FR < W256 := hP.lt
  have hrem := U512.divrem_rem (beVal ha) (Consts.FR - 1) (by omega) (by omega)
  have hrlt : beVal ha % (Consts.FR - 1) < Consts.FR - 1 := Nat.mod_lt _ (by omega)
  obtain ⟨f, hf, hflt, hfv⟩ := Fp.new_of_lt hP (beVal ha % (Consts.FR - 1)) (by show _ < Consts.FR; omega)
  have hadd : Fp.add paramsR f (Fp.one paramsR) < _ ∧ Fp.add paramsR f (Fp.one paramsR) = _ :=
    U256.add_refines f (Fp.one paramsR) paramsR.modulus hP.lt hP.gt hflt (Fp.one_lt hP)
  refine ⟨Fp.add paramsR f (Fp.one paramsR), ?_, hadd.1, ?_⟩
  · have hfs := U512.from_slice_eq _ (length_pad 64 ha hlen)
    rw [beVal_pad] at hfs
    unfold from_hash
    rw [if_neg (by omega)]
    simp only [hfs]
    show Outcome.ok (Option.map _ (Fp.new paramsR (U512.divrem (beVal ha)
      (Fp.into_u256 paramsR (Fp.neg paramsR (Fp.one paramsR)))).1.2)) = _
    rw [minus_one_value, hrem, hf]
    rfl
  · rw [← Fp.into_add_of hP hflt (Fp.one_lt hP) hadd.1 hadd.2.symm, hfv, Fp.into_one hP]
    exact Nat.mod_eq_of_lt (by show _ < Consts.FR; omega)

end FrL

theorem fq_from_slice64 (bs : List UInt8) (hlen : bs.length = 64) :
    ∃ y, Fp.interpret paramsQ bs = .ok y ∧ y < Consts.FQ ∧
      Fp.into_u256 paramsQ y = beVal bs % Consts.FQ :=
  Fp.interpret_spec paramsQ_ok bs hlen

theorem fr_from_slice64 (bs : List UInt8) (hlen : bs.length = 64) :
    ∃ y, Fp.interpret paramsR bs = .ok y ∧ y < Consts.FR ∧
      Fp.into_u256 paramsR y = beVal bs % Consts.FR :=
  Fp.interpret_spec paramsR_ok bs hlen

theorem fq_from_slice32 (x : Nat) (hx : x < W256) :
    Fp.new_mul_factor paramsQ x < Consts.FQ ∧
      Fp.into_u256 paramsQ (Fp.new_mul_factor paramsQ x) = x % Consts.FQ :=
  Fp.new_mul_factor_reduces paramsQ_ok x hx

theorem fr_from_slice32 (x : Nat) (hx : x < W256) :
    Fp.new_mul_factor paramsR x < Consts.FR ∧
      Fp.into_u256 paramsR (Fp.new_mul_factor paramsR x) = x % Consts.FR :=
  Fp.new_mul_factor_reduces paramsR_ok x hx

namespace Fp
variable {P : MontParams} [NeZero P.modulus]

theorem interpret_rep (hP : P.Ok) (bs : List UInt8) (h : bs.length = 64) :
    ∃ y, interpret P bs = .ok y ∧ Rep P y (Fin.ofNat _ (beVal bs)) := by
  obtain ⟨y, h1, h2, h3⟩ := interpret_spec hP bs h
  exact ⟨y, h1, Rep.of_into h2 h3⟩

/-- the strict 32-byte decoder `fields::Fq::from_slice` / `fields::Fr::from_slice` -/
theorem from_slice_rep (hP : P.Ok) (bs : List UInt8) :
    OptRel (Rep P) (from_slice P bs)
      (if bs.length = 32 then (if h : beVal bs < P.modulus then some ⟨beVal bs, h⟩ else none) else none) := by
  rw [from_slice_strict_spec hP]
  by_cases hl : bs.length = 32
  · by_cases hv : beVal bs < P.modulus
    · rw [if_pos ⟨hl, hv⟩, if_pos hl, dif_pos hv]
      exact .some_some ((Fin.ext (Nat.mod_eq_of_lt hv) : Fin.ofNat _ (beVal bs) = ⟨beVal bs, hv⟩) ▸ Rep.enc hP _)
    · rw [if_neg (fun c => hv c.2), if_pos hl, dif_neg hv]; exact .none_none
  · rw [if_neg (fun c => hl c.1), if_neg hl]; exact .none_none

/-- the table `ints` of `from_str` after `n` rounds: the entries so far, and the next one -/
def intsTable (P : MontParams) (n : Nat) : List Nat × Nat :=
  (List.range n).foldl (fun (st : List Nat × Nat) _ => (st.1 ++ [st.2], add P st.2 (one P))) ([], zero)

def strInts (P : MontParams) : List Nat := (intsTable P 11).1

theorem intsTable_succ (P : MontParams) (n : Nat) :
    intsTable P (n + 1) = ((intsTable P n).1 ++ [(intsTable P n).2], add P (intsTable P n).2 (one P)) := by
  unfold intsTable; rw [List.range_succ, List.foldl_append]; rfl

theorem intsTable_rep (hP : P.Ok) (n : Nat) :
    (intsTable P n).1.length = n ∧ Rep P (intsTable P n).2 (Fin.ofNat _ n) ∧
      ∀ k < n, Rep P ((intsTable P n).1.getD k 0) (Fin.ofNat _ k) := by
  induction n with
  | zero => exact ⟨rfl, Rep.zero hP, fun k hk => absurd hk (Nat.not_lt_zero k)⟩
  | succ n ih =>
    obtain ⟨h1, h2, h3⟩ := ih
    rw [intsTable_succ]
    refine ⟨by simp [h1], by rw [Fin.ofNat_add']; exact h2.add hP (Rep.one hP), fun k hk => ?_⟩
    rw [List.getD_eq_getElem?_getD]
    rcases Nat.lt_succ_iff_lt_or_eq.mp hk with hk | rfl
    · rw [List.getElem?_append_left (h1.symm ▸ hk), ← List.getD_eq_getElem?_getD]; exact h3 k hk
    · rw [List.getElem?_append_right (le_of_eq h1), h1, Nat.sub_self]; exact h2

def strStep (P : MontParams) (res : Option Nat) (c : Char) : Option Nat :=
  match res with
  | none => none
  | some res =>
    if c.isDigit then
      some (add P (mul P res ((strInts P).getD 10 0)) ((strInts P).getD (c.toNat - 48) 0))
    else none

omit [NeZero P.modulus] in
theorem foldl_strStep_none (s : List Char) : s.foldl (strStep P) none = none := by
  induction s with
  | nil => rfl
  | cons c cs ih => exact ih

theorem digit_lt (c : Char) (h : c.isDigit = true) : c.toNat - 48 < 11 := by
  simp only [Char.isDigit, Bool.and_eq_true, decide_eq_true_eq] at h
  have : c.toNat ≤ 57 := by show c.val.toNat ≤ 57; exact UInt32.le_iff_toNat_le.mp h.2
  omega

theorem from_str_fold (hP : P.Ok) (s : List Char) {res acc : Nat} (hres : Rep P res (Fin.ofNat _ acc)) :
    OptRel (Rep P) (s.foldl (strStep P) (some res))
      (if s.all Char.isDigit then some (Fin.ofNat _ (s.foldl (fun acc c => acc * 10 + (c.toNat - 48)) acc))
       else none) := by
  induction s generalizing res acc with
  | nil => exact .some_some hres
  | cons c cs ih =>
    rw [List.foldl_cons, List.foldl_cons, List.all_cons]
    by_cases hd : c.isDigit = true
    · have h10 := (intsTable_rep hP 11).2.2
      have hr := (hres.mul hP (h10 10 (by decide))).add hP (h10 _ (digit_lt c hd))
      rw [← Fin.ofNat_mul', ← Fin.ofNat_add'] at hr
      rw [hd, Bool.true_and, show strStep P (some res) c = some _ from if_pos hd]
      exact ih hr
    · rw [Bool.not_eq_true] at hd
      rw [hd, Bool.false_and, show strStep P (some res) c = none by simp [strStep, hd], foldl_strStep_none]
      exact .none_none

omit [NeZero P.modulus] in
theorem from_str_eq (P : MontParams) (s : List Char) : from_str P s = s.foldl (strStep P) (some zero) := rfl

theorem from_str_rep (hP : P.Ok) (s : List Char) :
    OptRel (Rep P) (from_str P s)
      (if s.all Char.isDigit then some (Fin.ofNat _ (s.foldl (fun acc c => acc * 10 + (c.toNat - 48)) 0))
       else none) :=
  from_str_eq P s ▸ from_str_fold hP s (Rep.zero hP)

end Fp

example : ∃ y, FrL.from_hash [1, 2, 3] = .ok (some y) ∧ y < Consts.FR ∧
    Fp.into_u256 paramsR y = beVal [1, 2, 3] % (Consts.FR - 1) + 1 :=
  FrL.from_hash_spec _ (by decide)

example : Fp.into_u256 paramsR (Fp.new_mul_factor paramsR (W256 - 1)) = (W256 - 1) % Consts.FR :=
  (fr_from_slice32 _ (by decide +kernel)).2

end Sm9
