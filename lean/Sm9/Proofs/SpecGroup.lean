import Sm9.Proofs.SpecCurve
/-!
# The oracle's affine point arithmetic (`Spec.ptNeg`, `ptAdd`, `ptMul`) on both curves is
Mathlib's group law on `Jac.Wb b1` (over `Fq`) and `Jac.Wb b2` (over `Fq2`)
-/
namespace Sm9
namespace SpecGroup
open SpecField SpecCurve

theorem ptMul_eq_sqmul {α : Type} (K : Spec.FieldOps α) (k : ℕ) (P : Spec.Pt α) :
    Spec.ptMul K k P = sqmul (Spec.ptAdd K) none P k := rfl

theorem ptMul_generic {α M : Type} [AddMonoid M] (K : Spec.FieldOps α) (enc : M → Spec.Pt α)
    (h0 : enc 0 = none) (hadd : ∀ x y, Spec.ptAdd K (enc x) (enc y) = enc (x + y)) (k : ℕ) (a : M) :
    Spec.ptMul K k (enc a) = enc (k • a) :=
  ptMul_eq_sqmul .. ▸ sqmul_rel (M := Multiplicative M) (Spec.ptAdd K) (fun P A => P = enc A.toAdd)
    (fun _ _ m n ha hb => by rw [ha, hb, hadd]; rfl) h0.symm rfl k

noncomputable def encPt1 : EPt b1 → Spec.Pt ℕ
  | .zero => none
  | .some x y _ => some (x.val, y.val)

theorem encPt1_zero : encPt1 (0 : EPt b1) = none := rfl
theorem encPt1_some {x y : Fq} (h : ENS b1 x y) : encPt1 (.some x y h) = some (x.val, y.val) := rfl

theorem encPt1_injective : Function.Injective encPt1 := enc_injective encQ encPt1_zero encPt1_some

theorem ptAdd1_eq (A B : EPt b1) : Spec.ptAdd Spec.opsQ (encPt1 A) (encPt1 B) = encPt1 (A + B) :=
  ptAdd_enc encQ encPt1_zero encPt1_some A B

theorem ptNeg1_eq (A : EPt b1) : Spec.ptNeg Spec.opsQ (encPt1 A) = encPt1 (-A) :=
  ptNeg_enc encQ encPt1_zero encPt1_some A

theorem ptNeg_eq (A : W.Point) : Spec.ptNeg Spec.opsQ2 (encPt A) = encPt (-A) :=
  ptNeg_enc encQ2 encPt_zero encPt_some A

theorem ptMul_eq (k : ℕ) (A : W.Point) : Spec.ptMul Spec.opsQ2 k (encPt A) = encPt (k • A) :=
  ptMul_generic Spec.opsQ2 encPt encPt_zero ptAdd_eq k A

theorem ptMul1_eq (k : ℕ) (A : EPt b1) : Spec.ptMul Spec.opsQ k (encPt1 A) = encPt1 (k • A) :=
  ptMul_generic Spec.opsQ encPt1 encPt1_zero ptAdd1_eq k A

theorem P1_eq : Spec.P1 = encPt1 (G1.toAff G.one) := by
  obtain ⟨hn, h⟩ := Jac.toAff_z_one b1 (G.one : G1) rfl G1.one_valid
  have h' : G1.toAff G.one = .some _ _ hn := h
  rw [h']
  show Spec.P1 = some ((G.one : G1).x.val, (G.one : G1).y.val)
  decide +kernel

theorem P2_eq : Spec.P2 = encPt (G2.toAff G.one) := by
  obtain ⟨hn, h⟩ := Jac.toAff_z_one b2 (G.one : G2) rfl G2.one_valid
  have h' : G2.toAff G.one = .some _ _ hn := h
  rw [h']
  show Spec.P2 = some (toQ2 (G.one : G2).x, toQ2 (G.one : G2).y)
  decide +kernel

theorem b_eq1 : ((Spec.b : ℕ) : Fq) = b1 := by decide +kernel
theorem bTwist_eq : Spec.Q2.bTwist = toQ2 b2 := by decide +kernel

theorem onCurve1_eq (x y : Fq) : Spec.onCurve1 x.val y.val = decide (y * y = x * x * x + b1) := by
  unfold Spec.onCurve1
  rw [Bool.eq_iff_iff, beq_iff_eq, decide_eq_true_iff, mod_eq_iff_cast]
  simp only [Nat.cast_mul, Nat.cast_add, cast_val, b_eq1]

theorem onCurve2_eq (x y : Fq2) :
    Spec.onCurve2 (toQ2 x) (toQ2 y) = decide (y * y = x * x * x + b2) := by
  unfold Spec.onCurve2
  rw [bTwist_eq, toQ2_mul, toQ2_mul, toQ2_mul, toQ2_add, Bool.eq_iff_iff, beq_iff_eq,
    decide_eq_true_iff]
  exact toQ2_injective.eq_iff

theorem g1_add_independent (P Q : G1) (hP : G1.Valid P) (hQ : G1.Valid Q) :
    Spec.ptAdd Spec.opsQ (encPt1 (G1.toAff P)) (encPt1 (G1.toAff Q)) = encPt1 (G1.toAff (P.add Q)) := by
  rw [ptAdd1_eq, G1.add_correct P Q hP hQ]

theorem g1_neg_independent (P : G1) (hP : G1.Valid P) :
    Spec.ptNeg Spec.opsQ (encPt1 (G1.toAff P)) = encPt1 (G1.toAff P.neg) := by
  rw [ptNeg1_eq, G1.neg_correct P hP]

theorem g1_mul_independent (P : G1) (hP : G1.Valid P) (k : Fr) :
    Spec.ptMul Spec.opsQ k.val (encPt1 (G1.toAff P)) = encPt1 (G1.toAff (P.mul k)) := by
  rw [ptMul1_eq, G1.mul_correct P hP k]

theorem g2_add_independent (P Q : G2) (hP : G2.Valid P) (hQ : G2.Valid Q) :
    Spec.ptAdd Spec.opsQ2 (encPt (G2.toAff P)) (encPt (G2.toAff Q)) = encPt (G2.toAff (P.add Q)) := by
  rw [ptAdd_eq, G2.add_correct P Q hP hQ]

theorem g2_neg_independent (P : G2) (hP : G2.Valid P) :
    Spec.ptNeg Spec.opsQ2 (encPt (G2.toAff P)) = encPt (G2.toAff P.neg) := by
  rw [ptNeg_eq, G2.neg_correct P hP]

theorem g2_mul_independent (P : G2) (hP : G2.Valid P) (k : Fr) :
    Spec.ptMul Spec.opsQ2 k.val (encPt (G2.toAff P)) = encPt (G2.toAff (P.mul k)) := by
  rw [ptMul_eq, G2.mul_correct P hP k]

end SpecGroup
end Sm9
