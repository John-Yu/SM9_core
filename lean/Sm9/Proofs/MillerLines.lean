import Sm9.Proofs.JacobianInst2
import Sm9.Proofs.Frobenius
/-!
# The coded line coefficients are the textbook line functions, up to a factor in Fq2ˣ

`E : y² = x³ + 5` over `Fq`, twist `E′ : y² = x³ + 5u` over `Fq2`, untwisting map
`ψ(x′, y′) = (x′ w⁻², y′ w⁻³)` (`w⁶ = u`).  The line through `ψ(T)` with slope `λ w⁻¹`
(`λ` the slope on the twist) evaluated at `P = (xP, yP) ∈ E(Fq)` is

  `yP − λ·xP·w⁻¹ + (λ·xT − yT)·w⁻³`                                   (`lineSpec_eq_w`)

`lineSpec` is this element written in the tower basis (`w⁻³ = u⁻¹ v`, `w⁻¹ = u⁻¹ v w²`).  What the final exponentiation
`x ↦ x^((q¹²−1)/r)` kills is collected here as well: the non-zero elements fixed by `σ = (·)^(q⁶)`, `Fq2ˣ`, `−1`, `w³`, and
`σ(f)·f`.
-/
namespace Sm9

theorem Fq2.new_zero_mul (a b : Fq) : Fq2.new (a * b) 0 = Fq2.new a 0 * Fq2.new b 0 := by
  ext <;> simp [Fq2.new]

namespace Jac
variable {F : Type} [Field F] [DecidableEq F]
theorem add_chord (P Q : G F) (hz : P.z ≠ 0) (hq : Q.z = 1) (hH : chordH P.x P.z Q.x Q.z ≠ 0) :
    add P Q = ⟨chordX P.x P.y P.z Q.x Q.y Q.z, chordY P.x P.y P.z Q.x Q.y Q.z, chordZ P.x P.z Q.x Q.z⟩ := by
  have harm : armOut P Q = ⟨chordX P.x P.y P.z Q.x Q.y Q.z, chordY P.x P.y P.z Q.x Q.y Q.z, chordZ P.x P.z Q.x Q.z⟩ := by
    unfold armOut; rw [if_neg (fun h => hH h.2)]
  rw [← harm]
  unfold add G.add
  simp only [G.is_zero, fe_is_zero, fe_beq, fe_one, hz, hq, one_ne_zero, decide_false, decide_true,
    Bool.false_eq_true, if_false]
  by_cases h1 : P.z = 1 <;> simp only [h1, decide_true, decide_false, if_false, if_true]
  · exact add_tt_eq P Q h1 hq
  · exact add_ft_eq P Q hq
end Jac

theorem G2.add_chord (P Q : G2) (hz : P.z ≠ 0) (hq : Q.z = 1) (hH : Jac.chordH P.x P.z Q.x Q.z ≠ 0) :
    P.add Q = ⟨Jac.chordX P.x P.y P.z Q.x Q.y Q.z, Jac.chordY P.x P.y P.z Q.x Q.y Q.z, Jac.chordZ P.x P.z Q.x Q.z⟩ :=
  fe_Fq2_eq ▸ Jac.add_chord P Q hz hq hH

namespace Miller

/-- textbook line value `yP − λ·xP·w⁻¹ + (λ·xT − yT)·w⁻³` in tower coordinates -/
noncomputable def lineSpec (xT yT lam : Fq2) (xP yP : Fq) : Fq12 :=
  { c0 := ⟨Fq2.new yP 0, (lam * xT - yT) * Fq2.i⁻¹⟩,
    c1 := 0,
    c2 := ⟨0, -(lam * Fq2.new xP 0) * Fq2.i⁻¹⟩ }

theorem lineSpec_eq_w (xT yT lam : Fq2) (xP yP : Fq) :
    lineSpec xT yT lam xP yP
      = Fq12.ofFq yP - Fq12.ofFq2 lam * Fq12.ofFq xP * Fq12.w⁻¹
        + Fq12.ofFq2 (lam * xT - yT) * (Fq12.w ^ 3)⁻¹ := by
  have hw := Fq12.w_ne_zero
  rw [Fq12.decomp_ofFq2 (lineSpec xT yT lam xP yP)]
  unfold lineSpec
  simp only [Fq4.zero_c0, Fq4.zero_c1, Fq12.ofFq_eq_ofFq2, map_zero, zero_mul, add_zero, map_mul, map_neg, map_sub,
    map_inv₀, ← Fq12.w_pow6_eq]
  field_simp
  ring

theorem lineSpec_ne_zero (xT yT lam : Fq2) (xP yP : Fq) (hy : yP ≠ 0) :
    lineSpec xT yT lam xP yP ≠ 0 := by
  intro h
  apply hy
  have := congrArg (fun x : Fq12 => x.c0.c0.c0) h
  exact this

/-- `σ : x ↦ x^(q⁶)`, the conjugation of `Fq12` over `Fq6` -/
noncomputable def sigma : Fq12 →+* Fq12 := iterateFrobenius Fq12 q 6

theorem sigma_apply (x : Fq12) : sigma x = x ^ q ^ 6 := iterateFrobenius_def _ _ _

theorem sigma_ofFq (a : Fq) : sigma (Fq12.ofFq a) = Fq12.ofFq a := by
  rw [sigma_apply, ← map_pow, Fq.pow_q_pow]

theorem sigma_ofFq2 (a : Fq2) : sigma (Fq12.ofFq2 a) = Fq12.ofFq2 a := by
  have h := FiniteField.pow_card_pow 3 a
  rw [Fq2.card, ← pow_mul] at h
  rw [sigma_apply, ← map_pow, h]

theorem sigma_w : sigma Fq12.w = -Fq12.w := by
  rw [sigma_apply, Fq12.w_pow_q_pow, Fq12.consts6, map_neg, map_one, neg_one_mul]

theorem sigma_lineSpec (x y lam : Fq2) (xP yP : Fq) :
    sigma (lineSpec x y lam xP yP)
      = Fq12.ofFq yP + Fq12.ofFq2 lam * Fq12.ofFq xP * Fq12.w⁻¹
        - Fq12.ofFq2 (lam * x - y) * (Fq12.w ^ 3)⁻¹ := by
  rw [lineSpec_eq_w]
  simp only [map_add, map_sub, map_mul, map_inv₀, map_pow, sigma_ofFq, sigma_ofFq2, sigma_w]
  rw [Odd.neg_pow (by decide), inv_neg, inv_neg]
  ring

theorem lineSpec_neg_P (x y lam : Fq2) (xP yP : Fq) :
    lineSpec x y lam xP (-yP) = -sigma (lineSpec x y lam xP yP) := by
  rw [sigma_lineSpec, lineSpec_eq_w, map_neg]
  ring

theorem lineSpec_neg_Q (x y lam : Fq2) (xP yP : Fq) :
    lineSpec x (-y) (-lam) xP yP = sigma (lineSpec x y lam xP yP) := by
  rw [sigma_lineSpec, lineSpec_eq_w, show -lam * x - -y = -(lam * x - y) by ring, map_neg, map_neg]
  ring

theorem q6_dvd_final : q ^ 6 - 1 ∣ (q ^ 12 - 1) / r := by decide +kernel
theorem q6_pos : q ^ 6 - 1 + 1 = q ^ 6 := by decide +kernel

theorem pow_final_of_sigma_fixed (z : Fq12) (hz : z ≠ 0) (h : sigma z = z) : z ^ ((q ^ 12 - 1) / r) = 1 := by
  obtain ⟨c, hc⟩ := q6_dvd_final
  have h1 : z ^ (q ^ 6 - 1) = 1 := by
    rw [sigma_apply, ← q6_pos, pow_succ] at h
    exact mul_right_cancel₀ hz (by rw [h, one_mul])
  rw [hc, pow_mul, h1, one_pow]

theorem fq2_card_dvd : q ^ 2 - 1 ∣ (q ^ 12 - 1) / r := by decide +kernel

theorem ofFq2_pow_final (κ : Fq2) (hκ : κ ≠ 0) : Fq12.ofFq2 κ ^ ((q ^ 12 - 1) / r) = 1 := by
  obtain ⟨c, hc⟩ := fq2_card_dvd
  rw [← map_pow, hc, pow_mul, Fq2.pow_card_sub_one κ hκ, one_pow, map_one]

theorem neg_one_pow_final : (-1 : Fq12) ^ ((q ^ 12 - 1) / r) = 1 := by
  have h := ofFq2_pow_final (-1) (neg_ne_zero.mpr one_ne_zero)
  rwa [map_neg, map_one] at h

theorem two_q2_dvd_final : 2 * (q ^ 2 - 1) ∣ (q ^ 12 - 1) / r := by decide +kernel

theorem w3_pow_final : (Fq12.w ^ 3) ^ ((q ^ 12 - 1) / r) = 1 := by
  obtain ⟨c, hc⟩ := two_q2_dvd_final
  rw [hc, ← pow_mul, ← mul_assoc, ← mul_assoc, pow_mul, pow_mul, show 3 * 2 = 6 from rfl, Fq12.w_pow6_eq,
    ← map_pow, Fq2.pow_card_sub_one _ Fq2.i_ne_zero, map_one, one_pow]

theorem sigma_exp_identity :
    (q ^ 6 + 1) * ((q ^ 12 - 1) / r) = (q ^ 12 - 1) * ((q ^ 6 + 1) / r) := by decide +kernel

/-- because `r ∣ q⁶ + 1` -/
theorem sigma_pow_final (f : Fq12) (hf : f ≠ 0) :
    sigma f ^ ((q ^ 12 - 1) / r) * f ^ ((q ^ 12 - 1) / r) = 1 := by
  rw [sigma_apply, ← pow_mul, ← pow_add,
    show q ^ 6 * ((q ^ 12 - 1) / r) + (q ^ 12 - 1) / r = (q ^ 6 + 1) * ((q ^ 12 - 1) / r) by ring,
    sigma_exp_identity, pow_mul, Fq12.pow_card_sub_one f hf, one_pow]

theorem get_fq12_eq (c : Fq2 × Fq2 × Fq2) (t1 : Fq2) (x : Fq) :
    G2Prepared.get_fq12 c t1 x = ⟨⟨c.1 * t1, c.2.1⟩, 0, ⟨0, c.2.2 * Fq2.new x 0⟩⟩ := by
  unfold G2Prepared.get_fq12
  rw [Fq2.scale_eq]
  rfl

theorem line_of_coeffs (c0 c1 c2 xT yT lam : Fq2) (xP yP : Fq)
    (h1 : c1 = c0 * (lam * xT - yT)) (h2 : c2 = -(c0 * lam)) :
    G2Prepared.get_fq12 (c0, c1, c2) (Fq2.new yP 0).mul_by_nonresidue xP
      = Fq12.ofFq2 (c0 * Fq2.i) * lineSpec xT yT lam xP yP := by
  have hi := Fq2.i_ne_zero
  unfold lineSpec
  rw [get_fq12_eq, Fq12.ofFq2_mul_sparse, Fq2.mul_by_nonresidue_eq, h1, h2]
  -- not `congr 2`: its `rfl` attempts unfold the arithmetic of `Fq2`
  refine congrArg₂ (fun a b => (⟨a, 0, b⟩ : Fq12)) (congrArg₂ Fq4.mk ?_ ?_) (congrArg (Fq4.mk 0) ?_)
  · ring
  · field_simp
  · field_simp


theorem get_fq12_sparse (c : Fq2 × Fq2 × Fq2) (t1 : Fq2) (x : Fq) :
    (G2Prepared.get_fq12 c t1 x).c1 = 0 ∧ (G2Prepared.get_fq12 c t1 x).c2.c0 = 0 := ⟨rfl, rfl⟩

theorem mul_015_get_fq12 (f : Fq12) (c : Fq2 × Fq2 × Fq2) (t1 : Fq2) (x : Fq) :
    f.mul_015 (G2Prepared.get_fq12 c t1 x) = f * G2Prepared.get_fq12 c t1 x :=
  Fq12.mul_015_eq_mul _ _ rfl rfl

theorem tangent_coeffs (T : G2) :
    (G2m.g_tangent T).2 =
      ((2 * (T.y * T.z)) * (T.z * T.z), 3 * (T.x * T.x) * T.x - 2 * (T.y * T.y), -((T.z*T.z) * (3 * (T.x * T.x)))) := by
  unfold G2m.g_tangent G.double
  simp only [FieldElement.double, Fq2.squared_eq_mul, Fq2.double_eq, Fq2.triple_eq]
  refine Prod.ext ?_ (Prod.ext ?_ ?_) <;> simp only <;> ring


theorem g_tangent_line (T : G2) (xP yP : Fq) (hz : T.z ≠ 0) (hy : T.y ≠ 0) :
    (G2m.g_tangent T).1 = T.double ∧
    (G2m.g_tangent T).2.1 ≠ 0 ∧
    G2Prepared.get_fq12 (G2m.g_tangent T).2 (Fq2.new yP 0).mul_by_nonresidue xP
      = Fq12.ofFq2 ((G2m.g_tangent T).2.1 * Fq2.i) *
          lineSpec (T.x / T.z ^ 2) (T.y / T.z ^ 3) (3 * (T.x / T.z ^ 2) ^ 2 / (2 * (T.y / T.z ^ 3))) xP yP := by
  have h2 := Fq2.two_ne_zero
  refine ⟨rfl, ?_, ?_⟩
  · rw [tangent_coeffs]
    exact mul_ne_zero (mul_ne_zero h2 (mul_ne_zero hy hz)) (mul_ne_zero hz hz)
  · rw [tangent_coeffs]
    apply line_of_coeffs
    · field_simp
    · field_simp

theorem line_algebra {K : Type} [Field K] (X Y Z xQ yQ : K) (hz : Z ≠ 0) (hd : xQ * Z ^ 2 - X ≠ 0) :
    -(Y - Z * Z * Z * yQ) * xQ - Z * (xQ * Z ^ 2 - X) * yQ
        = Z * (xQ * Z ^ 2 - X) * ((yQ - Y / Z ^ 3) / (xQ - X / Z ^ 2) * (X / Z ^ 2) - Y / Z ^ 3) ∧
    Y - Z * Z * Z * yQ = -(Z * (xQ * Z ^ 2 - X) * ((yQ - Y / Z ^ 3) / (xQ - X / Z ^ 2))) := by
  have e : xQ - X / Z ^ 2 = (xQ * Z ^ 2 - X) / Z ^ 2 := by field_simp
  rw [e]
  obtain ⟨D, hD⟩ : ∃ D, D = xQ * Z ^ 2 - X := ⟨_, rfl⟩
  rw [← hD] at hd ⊢
  constructor
  · field_simp
    rw [hD]; ring
  · field_simp
    ring

theorem line_coeffs (T Q : G2) :
    (G2m.g_line T Q).2 =
      ((T.add Q).z, -(T.y - T.z * T.z * T.z * Q.y) * Q.x - (T.add Q).z * Q.y, T.y - T.z * T.z * T.z * Q.y) := by
  unfold G2m.g_line
  simp only [Fq2.squared_eq_mul]


theorem g_line_line (T Q : G2) (xP yP : Fq) (hz : T.z ≠ 0) (hq : Q.z = 1) (hx : T.x / T.z ^ 2 ≠ Q.x) :
    (G2m.g_line T Q).1 = T.add Q ∧
    (G2m.g_line T Q).2.1 = (T.add Q).z ∧
    (G2m.g_line T Q).2.1 ≠ 0 ∧
    G2Prepared.get_fq12 (G2m.g_line T Q).2 (Fq2.new yP 0).mul_by_nonresidue xP
      = Fq12.ofFq2 ((G2m.g_line T Q).2.1 * Fq2.i) *
          lineSpec (T.x / T.z ^ 2) (T.y / T.z ^ 3)
            ((Q.y - T.y / T.z ^ 3) / (Q.x - T.x / T.z ^ 2)) xP yP := by
  have hd : Q.x * T.z ^ 2 - T.x ≠ 0 := by
    intro h; apply hx
    field_simp
    linear_combination -h
  have hH : Jac.chordH T.x T.z Q.x Q.z ≠ 0 := by
    unfold Jac.chordH
    rw [hq]
    intro h; apply hd; linear_combination h
  have hadd := G2.add_chord T Q hz hq hH
  have hzz : (T.add Q).z = T.z * (Q.x * T.z ^ 2 - T.x) := by
    rw [hadd]; simp only [Jac.chordZ, Jac.chordH, hq]; ring
  obtain ⟨a1, a2⟩ := line_algebra T.x T.y T.z Q.x Q.y hz hd
  refine ⟨rfl, by rw [line_coeffs], ?_, ?_⟩
  · rw [line_coeffs]
    show (T.add Q).z ≠ 0
    rw [hzz]
    exact mul_ne_zero hz hd
  · rw [line_coeffs]
    apply line_of_coeffs
    · rw [hzz]; exact a1
    · rw [hzz]; exact a2

example : (G.one : G2).z ≠ 0 ∧ (G.one : G2).y ≠ 0 := by decide +kernel
example : (G.one : G2).double.z ≠ 0 ∧ (G.one : G2).z = 1 ∧
    (G.one : G2).double.x * (G.one : G2).z ^ 2 ≠ (G.one : G2).x * (G.one : G2).double.z ^ 2 := by decide +kernel

end Miller
end Sm9

