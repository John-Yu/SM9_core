import Lean
import Sm9.Spec.Spec
/-!
# `make_twin`: a copy of an oracle definition with chosen constants turned into parameters

The kernel unfolds matchers (reducibility hint `abbrev`) before regular definitions and then
evaluates the discriminant; for `match Spec.slope2 T Q with …`, `match Spec.frobTwist Q with …`
this runs into `x + q` with the 256-bit literal `q` and never returns.  `make_twin f as g abstracting c₁ … cₙ`
adds `g := fun c₁ … cₙ => (value of f)` with the *same* reducibility height, and the theorem
`g.eq : ∀ xs, f xs = g c₁ … cₙ xs` by `Eq.refl` (both sides unfold in one step to structurally
equal terms, so no matcher is ever reduced).  All reasoning is then done on `g` with abstract parameters.
-/
open Lean Elab Command Meta

elab "make_twin " orig:ident " as " new:ident " abstracting " cs:ident* : command => do
  let origName ← liftCoreM <| realizeGlobalConstNoOverloadWithInfo orig
  let csNames ← cs.mapM fun c => liftCoreM <| realizeGlobalConstNoOverloadWithInfo c
  let ns ← getCurrNamespace
  let newName := ns ++ new.getId
  liftTermElabM do
    let info ← getConstInfoDefn origName
    let decls ← csNames.mapM fun c => do
      let ci ← getConstInfo c
      pure (c.componentsRev.head!, ci.type)
    withLocalDeclsDND decls fun fvars => do
      let value' := info.value.replace fun e =>
        if e.isConst then
          match csNames.idxOf? e.constName! with
          | some i => some fvars[i]!
          | none => none
        else none
      let newVal ← mkLambdaFVars fvars value'
      let newType ← mkForallFVars fvars info.type
      addDecl (.defnDecl { name := newName, levelParams := [], type := newType, value := newVal,
                           hints := info.hints, safety := .safe })
      let consts := csNames.map fun c => mkConst c
      forallTelescope info.type fun xs _ => do
        let lhs := mkAppN (mkConst origName) xs
        let rhs := mkAppN (mkAppN (mkConst newName) consts) xs
        let stmt ← mkForallFVars xs (← mkEq lhs rhs)
        let prf ← mkLambdaFVars xs (← mkEqRefl lhs)
        addDecl (.thmDecl { name := newName ++ `eq, levelParams := [], type := stmt, value := prf })
