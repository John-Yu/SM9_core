import Sm9.Proofs.Program
import Sm9.Proofs.Decoders
import Sm9.Proofs.RepIndep
import Mathlib.GroupTheory.OrderOfElement
/-!
C16 for the mixed machine `mstep`/`mrun` (G1 and G2 registers, encode/decode round trips; the machine the
differential driver runs).  The abstract machine `astep2`/`arun2` on (group tag, discrete logarithm) simulates it
in two ways: unconditionally along "register k is some point of the order-r subgroup of the group that tag k
names" (`TagRel`), and with the exact logs (`RegRel`) as long as no compressed encode/decode is applied to a G2
register whose point `d • P2` has `Re y = 0` (`G2CompressedSafe`).  For such a point both roots ±y carry the same
sign bit and the crate's decoder returns whichever root `Fq2::sqrt` produces, so the round trip yields P or −P
(`encDec2_compressed_up_to_sign`).  That no point of the order-r subgroup of the twist has `Re y = 0` is not proved.
-/
namespace Sm9
open WeierstrassCurve

noncomputable def gen2 := G2.toAff (G.one : G2)

theorem gen2_order : r • gen2 = 0 ∧ gen2 ≠ 0 := ⟨G2.one_order, G2.toAff_one_ne_zero⟩

theorem gen2_addOrderOf : addOrderOf gen2 = r := addOrderOf_eq_prime gen2_order.1 gen2_order.2

abbrev Rel1 (P : G1) (d : Fr) : Prop := Rel P d

def Rel2 (Q : G2) (d : Fr) : Prop := G2.Valid Q ∧ G2.toAff Q = d.val • gen2

/-- a register of the mixed machine against (group tag, discrete log); `true` tags G1 -/
def RegRel : Reg → Bool × Fr → Prop
  | .p1 P, (true, d) => Rel1 P d
  | .p2 Q, (false, d) => Rel2 Q d
  | _, _ => False

theorem RegRel.inv {A : Reg} {t : Bool} {d : Fr} (h : RegRel A (t, d)) :
    (∃ P, A = .p1 P ∧ t = true ∧ Rel1 P d) ∨ (∃ Q, A = .p2 Q ∧ t = false ∧ Rel2 Q d) := by
  cases A <;> cases t
  exacts [h.elim, Or.inl ⟨_, rfl, rfl, h⟩, Or.inr ⟨_, rfl, rfl, h⟩, h.elim]

theorem rel2_subgroup {Q : G2} {d : Fr} (h : Rel2 Q d) : r • G2.toAff Q = 0 := by
  rw [h.2, smul_comm, gen2_order.1, smul_zero]

theorem rel1_subgroup {P : G1} {d : Fr} (h : Rel1 P d) : r • G1.toAff P = 0 := by
  rw [h.2, smul_comm, gen1_order.1, smul_zero]

theorem groupSim2 : GroupSim Rel2 where
  one := ⟨G2.one_valid, smul_val_one.symm⟩
  zero := ⟨Or.inl rfl, (G2.toAff_zero _ rfl).trans smul_val_zero.symm⟩
  add := fun {P Q} _ _ hP hQ => ⟨G2.add_valid P Q hP.1 hQ.1,
    by rw [G2.add_correct P Q hP.1 hQ.1, hP.2, hQ.2, smul_val_add gen2_order.1]⟩
  neg := fun {P} _ hP => ⟨G2.neg_valid P hP.1, by rw [G2.neg_correct P hP.1, hP.2, smul_val_neg gen2_order.1]⟩
  mul := fun {P} _ k hP => ⟨G2.mul_valid P hP.1 k,
    by rw [G2.mul_correct P hP.1 k, hP.2, smul_val_mul gen2_order.1]⟩
  normalize := fun {P} _ hP => let ⟨h1, _, _, h4⟩ := G2.normalize_spec P hP.1; ⟨h4, h1.trans hP.2⟩

theorem rel1_fresh (d : Fr) : Rel1 ((G.one : G1).mul d) d := by
  have := groupSim1.mul d groupSim1.one
  rwa [one_mul] at this
theorem rel2_fresh (d : Fr) : Rel2 ((G.one : G2).mul d) d := by
  have := groupSim2.mul d groupSim2.one
  rwa [one_mul] at this

theorem affRound_eq {F} [FieldElement F] (p : G F) : affRound p = Api.normalize p := rfl

theorem observe_eq2 {P Q : G2} {a b : Fr} (hP : Rel2 P a) (hQ : Rel2 Q b) : P.eq Q = true ↔ a = b := by
  rw [G2.eq_iff P Q hP.1 hQ.1, hP.2, hQ.2]
  exact ⟨smul_val_inj gen2_order.1 gen2_order.2, fun h => by rw [h]⟩

theorem rel1_z_zero_iff {P : G1} {a : Fr} (hP : Rel1 P a) : P.z = 0 ↔ a = 0 := by
  rw [← observe_is_zero hP, G1.is_zero_iff]

theorem rel2_z_zero_iff {P : G2} {a : Fr} (hP : Rel2 P a) : P.z = 0 ↔ a = 0 := by
  rw [← Jac.toAff_eq_zero_iff hP.1, ← observe_eq2 hP groupSim2.zero, G2.eq_iff P G.zero hP.1 (Or.inl rfl),
    G2.toAff_zero G.zero rfl]

theorem observe_is_zero2 {P : G2} {a : Fr} (hP : Rel2 P a) : P.is_zero = true ↔ a = 0 := by
  rw [G2.is_zero_iff, rel2_z_zero_iff hP]

theorem encDec1_eq (fmt : Fmt) (P : G1) (hP : G1.Valid P) : encDec1 fmt P = some (Api.normalize P) := by
  unfold encDec1
  by_cases hz : P.z = 0
  · rw [if_pos ((G1.is_zero_iff P).2 hz), (G1.normalize_spec P hP).2.2.1 hz]
  · rw [if_neg (mt (G1.is_zero_iff P).1 hz)]
    cases fmt
    · obtain ⟨bs, h1, h2⟩ := g1_slice_encdec P hP hz; simp only [h1, h2]; rfl
    · obtain ⟨bs, h1, h2⟩ := g1_uncompressed_encdec P hP hz; simp only [h1, h2]; rfl
    · obtain ⟨bs, h1, h2⟩ := g1_compressed_encdec P hP hz; simp only [h1, h2]; rfl

theorem encDec2_compressed (P : G2) (hP : G2.Valid P) (hsub : r • G2.toAff P = 0) :
    ∃ Q, encDec2 .compressed P = some Q ∧ (Q = Api.normalize P ∨ Q = (Api.normalize P).neg) ∧
      ((P.z ≠ 0 → (P.y / P.z ^ 3).c0 ≠ 0) → Q = Api.normalize P) := by
  unfold encDec2
  by_cases hz : P.z = 0
  · rw [if_pos ((G2.is_zero_iff P).2 hz), (G2.normalize_spec P hP).2.2.1 hz]
    exact ⟨P, rfl, Or.inl rfl, fun _ => rfl⟩
  · rw [if_neg (mt (G2.is_zero_iff P).1 hz)]
    obtain ⟨bs, Q, h1, h2, h3, h4⟩ := g2_compressed_encdec P hP hz hsub
    simp only [h1, h2]
    exact ⟨Q, rfl, h3, fun h => h4 (h hz)⟩

theorem encDec2_eq (fmt : Fmt) (P : G2) (hP : G2.Valid P) (hsub : r • G2.toAff P = 0)
    (hre : fmt = .compressed → P.z ≠ 0 → (P.y / P.z ^ 3).c0 ≠ 0) :
    encDec2 fmt P = some (Api.normalize P) := by
  by_cases hz : P.z = 0
  · unfold encDec2
    rw [if_pos ((G2.is_zero_iff P).2 hz), (G2.normalize_spec P hP).2.2.1 hz]
  · have hnz := mt (G2.is_zero_iff P).1 hz
    cases fmt
    · obtain ⟨bs, h1, h2⟩ := g2_slice_encdec P hP hz hsub; simp only [encDec2, if_neg hnz, h1, h2]; rfl
    · obtain ⟨bs, h1, h2⟩ := g2_uncompressed_encdec P hP hz hsub; simp only [encDec2, if_neg hnz, h1, h2]; rfl
    · obtain ⟨Q, h, _, h4⟩ := encDec2_compressed P hP hsub; rw [h, h4 (hre rfl)]

theorem encDec2_compressed_up_to_sign (P : G2) (hP : G2.Valid P) (hsub : r • G2.toAff P = 0) :
    encDec2 .compressed P = some (Api.normalize P) ∨ encDec2 .compressed P = some (Api.normalize P).neg :=
  let ⟨_, h, h3, _⟩ := encDec2_compressed P hP hsub
  h3.imp (fun e => h.trans (congrArg some e)) fun e => h.trans (congrArg some e)

/-- the point `d • P2` has an affine y-coordinate with non-zero real part (vacuous for `d = 0`) -/
def ReYNonzero (d : Fr) : Prop :=
  ∀ (x y : Fq2) (h : (Jac.Wb b2).Nonsingular x y), d.val • gen2 = .some x y h → y.c0 ≠ 0

theorem reYNonzero_zero : ReYNonzero 0 := by
  intro x y h e
  rw [smul_val_zero] at e
  exact absurd e.symm (Affine.Point.some_ne_zero _)

/-- the step is not a compressed encode/decode of a G2 register whose point has `Re y = 0` -/
def StepSafe (ds : List (Bool × Fr)) : MInstr → Prop
  | .encdec i .compressed => ∀ d, ds[i]? = some (false, d) → ReYNonzero d
  | _ => True

def SafeFrom : List (Bool × Fr) → List MInstr → Prop
  | _, [] => True
  | ds, ins :: rest => StepSafe ds ins ∧ ∀ ds', astep2 ds ins = some ds' → SafeFrom ds' rest

/-- along the abstract run, every compressed encode/decode of a G2 register with log `d`
    has `ReYNonzero d` -/
def G2CompressedSafe (prog : List MInstr) : Prop := SafeFrom [] prog

theorem SafeFrom.cons {ds ds' : List (Bool × Fr)} {ins : MInstr} {rest : List MInstr} (hs : StepSafe ds ins)
    (hd : astep2 ds ins = some ds') (hr : SafeFrom ds' rest) : SafeFrom ds (ins :: rest) :=
  ⟨hs, fun _ h => Option.some.inj (hd.symm.trans h) ▸ hr⟩

theorem stepSafe_compressed {ds : List (Bool × Fr)} {i : Nat} {e : Bool × Fr} (he : ds[i]? = some e)
    (h : e.1 = false → ReYNonzero e.2) : StepSafe ds (.encdec i .compressed) := by
  intro d hd
  obtain rfl := Option.some.inj (he.symm.trans hd)
  exact h rfl

theorem rel1_encdec {P : G1} {d : Fr} (h : Rel1 P d) (fmt : Fmt) :
    ∃ P', encDec1 fmt P = some P' ∧ Rel1 P' d :=
  ⟨_, encDec1_eq fmt P h.1, groupSim1.normalize h⟩

theorem rel2_encdec {Q : G2} {d : Fr} (h : Rel2 Q d) (fmt : Fmt) (hs : fmt = .compressed → ReYNonzero d) :
    ∃ Q', encDec2 fmt Q = some Q' ∧ Rel2 Q' d :=
  ⟨_, encDec2_eq fmt Q h.1 (rel2_subgroup h)
    (fun hf hz => hs hf _ _ _ ((G2.toAff_some Q hz (h.1.resolve_left hz)).symm.trans h.2).symm), groupSim2.normalize h⟩

theorem rel2_encdec_up_to_sign {Q : G2} {d : Fr} (h : Rel2 Q d) (fmt : Fmt) :
    ∃ Q' d', encDec2 fmt Q = some Q' ∧ Rel2 Q' d' ∧ (d' = d ∨ d' = -d) := by
  cases fmt
  · exact ⟨_, d, encDec2_eq .slice Q h.1 (rel2_subgroup h) (fun hf => by cases hf), groupSim2.normalize h, Or.inl rfl⟩
  · exact ⟨_, d, encDec2_eq .uncompressed Q h.1 (rel2_subgroup h) (fun hf => by cases hf), groupSim2.normalize h, Or.inl rfl⟩
  · rcases encDec2_compressed_up_to_sign Q h.1 (rel2_subgroup h) with e | e
    · exact ⟨_, d, e, groupSim2.normalize h, Or.inl rfl⟩
    · exact ⟨_, -d, e, groupSim2.neg (groupSim2.normalize h), Or.inr rfl⟩

def RegRelOf (S1 : G1 → Fr → Prop) (S2 : G2 → Fr → Prop) : Reg → Bool × Fr → Prop
  | .p1 P, (true, d) => S1 P d
  | .p2 Q, (false, d) => S2 Q d
  | _, _ => False

theorem regRel_eq : RegRel = RegRelOf Rel1 Rel2 := by
  funext R e; obtain ⟨t, d⟩ := e; cases R <;> cases t <;> rfl

/-- a register is some point of the order-r subgroup of the group its tag names -/
abbrev TagRel : Reg → Bool × Fr → Prop := RegRelOf (fun P _ => ∃ d, Rel1 P d) (fun Q _ => ∃ d, Rel2 Q d)

section
variable {S1 : G1 → Fr → Prop} {S2 : G2 → Fr → Prop}

theorem lookupOf {regs : List Reg} {ds : List (Bool × Fr)} (h : List.Forall₂ (RegRelOf S1 S2) regs ds) (i : Nat) :
    (regs[i]? = none ∧ ds[i]? = none) ∨
    (∃ P d, regs[i]? = some (.p1 P) ∧ ds[i]? = some (true, d) ∧ S1 P d) ∨
    (∃ Q d, regs[i]? = some (.p2 Q) ∧ ds[i]? = some (false, d) ∧ S2 Q d) := by
  refine (lookup_rel h i).cases (Or.inl ⟨rfl, rfl⟩) ?_
  rintro (P | Q) ⟨_ | _, d⟩ hr
  exacts [hr.elim, Or.inr (Or.inl ⟨P, d, rfl, rfl, hr⟩), Or.inr (Or.inr ⟨Q, d, rfl, rfl, hr⟩), hr.elim]

/-- `henc1`, `henc2`: the relation survives the encode/decode round trips this instruction performs -/
theorem mnew_simOf (h1 : GroupSim S1) (h2 : GroupSim S2) {regs : List Reg} {ds : List (Bool × Fr)}
    (h : List.Forall₂ (RegRelOf S1 S2) regs ds) (ins : MInstr)
    (henc1 : ∀ fmt P d, S1 P d → ∃ P', encDec1 fmt P = some P' ∧ S1 P' d)
    (henc2 : ∀ i fmt Q d, ins = .encdec i fmt → ds[i]? = some (false, d) → S2 Q d →
      ∃ Q', encDec2 fmt Q = some Q' ∧ S2 Q' d) :
    OptRel (RegRelOf S1 S2) (mnew regs ins) (anew ds ins) := by
  cases ins with
  | one1 => exact h1.one
  | one2 => exact h2.one
  | zero1 => exact h1.zero
  | zero2 => exact h2.zero
  | add i j =>
    rcases lookupOf h i with ⟨e1, e2⟩ | ⟨P, a, e1, e2, hP⟩ | ⟨P, a, e1, e2, hP⟩ <;>
    rcases lookupOf h j with ⟨e3, e4⟩ | ⟨Q, b, e3, e4, hQ⟩ | ⟨Q, b, e3, e4, hQ⟩ <;>
    simp only [mnew, anew, e1, e2, e3, e4]
    exacts [trivial, trivial, trivial, trivial, h1.add hP hQ, trivial, trivial, trivial, h2.add hP hQ]
  | sub i j =>
    rcases lookupOf h i with ⟨e1, e2⟩ | ⟨P, a, e1, e2, hP⟩ | ⟨P, a, e1, e2, hP⟩ <;>
    rcases lookupOf h j with ⟨e3, e4⟩ | ⟨Q, b, e3, e4, hQ⟩ | ⟨Q, b, e3, e4, hQ⟩ <;>
    simp only [mnew, anew, e1, e2, e3, e4]
    exacts [trivial, trivial, trivial, trivial, h1.sub hP hQ, trivial, trivial, trivial, h2.sub hP hQ]
  | neg i =>
    rcases lookupOf h i with ⟨e1, e2⟩ | ⟨P, a, e1, e2, hP⟩ | ⟨P, a, e1, e2, hP⟩ <;> simp only [mnew, anew, e1, e2]
    exacts [trivial, h1.neg hP, h2.neg hP]
  | mul i k =>
    rcases lookupOf h i with ⟨e1, e2⟩ | ⟨P, a, e1, e2, hP⟩ | ⟨P, a, e1, e2, hP⟩ <;> simp only [mnew, anew, e1, e2]
    exacts [trivial, h1.mul k hP, h2.mul k hP]
  | normalize i =>
    rcases lookupOf h i with ⟨e1, e2⟩ | ⟨P, a, e1, e2, hP⟩ | ⟨P, a, e1, e2, hP⟩ <;> simp only [mnew, anew, e1, e2]
    exacts [trivial, h1.normalize hP, h2.normalize hP]
  | affine i =>
    rcases lookupOf h i with ⟨e1, e2⟩ | ⟨P, a, e1, e2, hP⟩ | ⟨P, a, e1, e2, hP⟩ <;> simp only [mnew, anew, e1, e2]
    exacts [trivial, h1.normalize hP, h2.normalize hP]
  | encdec i fmt =>
    rcases lookupOf h i with ⟨e1, e2⟩ | ⟨P, a, e1, e2, hP⟩ | ⟨P, a, e1, e2, hP⟩ <;> simp only [mnew, anew, e1, e2]
    · trivial
    · obtain ⟨P', e, hP'⟩ := henc1 fmt P a hP
      rw [e]; exact hP'
    · obtain ⟨Q', e, hQ'⟩ := henc2 i fmt P a rfl e2 hP
      rw [e]; exact hQ'

end

theorem mnew_sim {regs : List Reg} {ds : List (Bool × Fr)} (h : List.Forall₂ RegRel regs ds) (ins : MInstr)
    (hs : StepSafe ds ins) : OptRel RegRel (mnew regs ins) (anew ds ins) := by
  rw [regRel_eq] at h ⊢
  refine mnew_simOf groupSim1 groupSim2 h ins (fun fmt _ _ hP => rel1_encdec hP fmt) ?_
  rintro i fmt Q d rfl e hQ
  exact rel2_encdec hQ fmt (by rintro rfl; exact hs d e)

theorem mnew_sim_tag {regs : List Reg} {es : List (Bool × Fr)} (h : List.Forall₂ TagRel regs es) (ins : MInstr) :
    OptRel TagRel (mnew regs ins) (anew es ins) :=
  mnew_simOf groupSim1.some groupSim2.some h ins
    (fun fmt _ _ ⟨d, hP⟩ => let ⟨P', e, hP'⟩ := rel1_encdec hP fmt; ⟨P', e, d, hP'⟩)
    (fun _ fmt _ _ _ _ ⟨_, hQ⟩ => let ⟨Q', d', e, hQ', _⟩ := rel2_encdec_up_to_sign hQ fmt; ⟨Q', e, d', hQ'⟩)

theorem mrunFrom_eq_foldlM (prog : List MInstr) : ∀ regs, mrunFrom regs prog = prog.foldlM mstep regs := by
  induction prog with
  | nil => intro _; rfl
  | cons ins rest ih => intro regs; rw [mrunFrom, List.foldlM_cons]; cases mstep regs ins <;> [rfl; exact ih _]

theorem arunFrom2_eq_foldlM (prog : List MInstr) : ∀ ds, arunFrom2 ds prog = prog.foldlM astep2 ds := by
  induction prog with
  | nil => intro _; rfl
  | cons ins rest ih => intro ds; rw [arunFrom2, List.foldlM_cons]; cases astep2 ds ins <;> [rfl; exact ih _]

theorem mstep_sim {S : Reg → Bool × Fr → Prop} {regs : List Reg} {ds : List (Bool × Fr)} {ins : MInstr}
    (h : List.Forall₂ S regs ds) (hn : OptRel S (mnew regs ins) (anew ds ins)) :
    OptRel (List.Forall₂ S) (mstep regs ins) (astep2 ds ins) := by
  unfold mstep astep2
  exact hn.cases trivial fun _ _ hab => List.rel_append h (.cons hab .nil)

theorem mrun_sim_tag (prog : List MInstr) : OptRel (List.Forall₂ TagRel) (mrun prog) (arun2 prog) := by
  rw [mrun, arun2, mrunFrom_eq_foldlM, arunFrom2_eq_foldlM]
  exact foldlM_sim (f := mstep) (g := astep2) (fun _ _ ins h => mstep_sim h (mnew_sim_tag h ins)) prog [] [] .nil

theorem mrun_sim (prog : List MInstr) (hsafe : G2CompressedSafe prog) :
    OptRel (List.Forall₂ RegRel) (mrun prog) (arun2 prog) := by
  rw [mrun, arun2, mrunFrom_eq_foldlM, arunFrom2_eq_foldlM]
  exact foldlM_sim_of (f := mstep) (g := astep2) (P := StepSafe) (Q := SafeFrom) (fun _ _ _ h => h)
    (fun _ _ ins h hs => mstep_sim h (mnew_sim h ins hs)) prog [] [] .nil hsafe

theorem exists_logs {regs : List Reg} {es : List (Bool × Fr)} (h : List.Forall₂ TagRel regs es) :
    ∃ ds, List.Forall₂ RegRel regs ds ∧ ds.map Prod.fst = es.map Prod.fst := by
  induction h with
  | nil => exact ⟨[], .nil, rfl⟩
  | @cons R e _ _ hr _ ih =>
    obtain ⟨ds, hds, ht⟩ := ih
    obtain ⟨t, _⟩ := e
    have : ∃ d, RegRel R (t, d) := by cases R <;> cases t <;> first | exact hr | exact hr.elim
    obtain ⟨d, hd⟩ := this
    exact ⟨(t, d) :: ds, .cons hd hds, by rw [List.map_cons, List.map_cons, ht]⟩

/-- **every program, every instruction (both groups, all three encode/decode round trips)**:
    if the abstract machine runs, so does the concrete one, and register k denotes
    `d_k • P1` resp. `d_k • P2`, under the hypothesis `G2CompressedSafe prog` -/
theorem mrun_refines (prog : List MInstr) (hsafe : G2CompressedSafe prog) (ds : List (Bool × Fr))
    (h : arun2 prog = some ds) : ∃ regs, mrun prog = some regs ∧ List.Forall₂ RegRel regs ds :=
  (mrun_sim prog hsafe).of_some h

/-- **unconditional**: if the abstract machine runs, so does the concrete one; every register is
    a valid point of the order-r subgroup of the group given by the abstract tag
    (it denotes `d' • P1` resp. `d' • P2` for some `d'`) -/
theorem mrun_valid (prog : List MInstr) (ds : List (Bool × Fr)) (h : arun2 prog = some ds) :
    ∃ regs ds', mrun prog = some regs ∧ List.Forall₂ RegRel regs ds' ∧ ds'.map Prod.fst = ds.map Prod.fst :=
  let ⟨regs, hm, hr⟩ := (mrun_sim_tag prog).of_some h
  let ⟨ds', hd, ht⟩ := exists_logs hr
  ⟨regs, ds', hm, hd, ht⟩

/-- **unconditional**: the two machines fail on exactly the same programs (bad index or operands
    of different groups; an encoder never panics and a decoder never rejects along a run) -/
theorem mrun_fails_iff (prog : List MInstr) : mrun prog = none ↔ arun2 prog = none :=
  (mrun_sim_tag prog).none_iff

theorem stepSafe_of_not_isG2Compressed (ds : List (Bool × Fr)) (ins : MInstr)
    (h : isG2Compressed ds ins = false) : StepSafe ds ins := by
  cases ins with
  | encdec i fmt =>
    cases fmt with
    | compressed =>
      intro d hd
      simp only [isG2Compressed, hd] at h
      have hv : d.val = 0 := by simpa using h
      have : d = 0 := Fin.ext (by rw [show Fin.val d = d.val from rfl, hv, Fr.zero_val])
      rw [this]
      exact reYNonzero_zero
    | slice => trivial
    | uncompressed => trivial
  | _ => trivial

theorem safeFrom_of_noG2CompressedFrom (prog : List MInstr) : ∀ ds : List (Bool × Fr),
    noG2CompressedFrom ds prog = true → SafeFrom ds prog := by
  induction prog with
  | nil => intro _ _; trivial
  | cons ins rest ih =>
    intro ds h
    simp only [noG2CompressedFrom, Bool.and_eq_true, Bool.not_eq_true'] at h
    refine ⟨stepSafe_of_not_isG2Compressed ds ins h.1, fun ds' hd => ?_⟩
    have h2 := h.2
    rw [hd] at h2
    exact ih ds' h2

theorem safe_of_noG2Compressed (prog : List MInstr) (h : NoG2Compressed prog) : G2CompressedSafe prog :=
  safeFrom_of_noG2CompressedFrom prog [] h

def fresh : Bool × Fr → Reg
  | (true, d) => .p1 ((G.one : G1).mul d)
  | (false, d) => .p2 ((G.one : G2).mul d)

theorem regRel_fresh (e : Bool × Fr) : RegRel (fresh e) e := by
  obtain ⟨t, d⟩ := e
  cases t
  · exact rel2_fresh d
  · exact rel1_fresh d

theorem observe_reg_eq {A B : Reg} {t : Bool} {a b : Fr} (hA : RegRel A (t, a)) (hB : RegRel B (t, b)) :
    ∃ v, A.eqObs B = some v ∧ (v = true ↔ a = b) := by
  obtain ⟨P, rfl, rfl, hP⟩ | ⟨P, rfl, rfl, hP⟩ := hA.inv <;> obtain ⟨Q, rfl, ht, hQ⟩ | ⟨Q, rfl, ht, hQ⟩ := hB.inv
  exacts [⟨_, rfl, observe_eq hP hQ⟩, Bool.noConfusion ht, Bool.noConfusion ht, ⟨_, rfl, observe_eq2 hP hQ⟩]

theorem observe_reg_is_zero {A : Reg} {t : Bool} {a : Fr} (hA : RegRel A (t, a)) :
    A.isZero = true ↔ a = 0 := by
  obtain ⟨P, rfl, rfl, hP⟩ | ⟨P, rfl, rfl, hP⟩ := hA.inv
  exacts [observe_is_zero hP, observe_is_zero2 hP]

theorem observe_affine1 {P P' : G1} {d : Fr} (h : Rel1 P d) (h' : Rel1 P' d) :
    P.to_affine = P'.to_affine ∧ Api.g1ToSlice P = Api.g1ToSlice P' ∧
    Api.g1ToUncompressed P = Api.g1ToUncompressed P' ∧ Api.g1ToCompressed P = Api.g1ToCompressed P' :=
  have e := G1.to_affine_congr P P' h.1 h'.1 (h.2.trans h'.2.symm)
  ⟨e, g1_encodings_congr e⟩

theorem observe_affine2 {Q Q' : G2} {d : Fr} (h : Rel2 Q d) (h' : Rel2 Q' d) :
    Q.to_affine = Q'.to_affine ∧ Api.g2ToSlice Q = Api.g2ToSlice Q' ∧
    Api.g2ToUncompressed Q = Api.g2ToUncompressed Q' ∧ Api.g2ToCompressed Q = Api.g2ToCompressed Q' :=
  have e := G2.to_affine_congr Q Q' h.1 h'.1 (h.2.trans h'.2.symm)
  ⟨e, g2_encodings_congr e⟩

theorem observe_pairings {p p' : G1} {qv qv' : G2} {a b : Fr} (hp : Rel1 p a) (hp' : Rel1 p' a)
    (hq : Rel2 qv b) (hq' : Rel2 qv' b) :
    Api.pairing p qv = Api.pairing p' qv' ∧ Api.fast_pairing p qv = Api.fast_pairing p' qv' ∧
    (do let pr ← Api.prepare qv; Api.preparedPairing pr p) = (do let pr ← Api.prepare qv'; Api.preparedPairing pr p') := by
  have e1 := (observe_affine1 hp hp').1
  have e2 := (observe_affine2 hq hq').1
  exact ⟨pairing_congr p p' qv qv' e1 e2, fast_pairing_congr p p' qv qv' e1 e2,
    prepared_pairing_congr p p' qv qv' e1 e2⟩

theorem observe_pairings_fresh {p : G1} {qv : G2} {a b : Fr} (hp : Rel1 p a) (hq : Rel2 qv b) :
    Api.pairing p qv = Api.pairing ((G.one : G1).mul a) ((G.one : G2).mul b) ∧
    Api.fast_pairing p qv = Api.fast_pairing ((G.one : G1).mul a) ((G.one : G2).mul b) ∧
    (do let pr ← Api.prepare qv; Api.preparedPairing pr p)
      = (do let pr ← Api.prepare ((G.one : G2).mul b); Api.preparedPairing pr ((G.one : G1).mul a)) :=
  observe_pairings hp (rel1_fresh a) hq (rel2_fresh b)

def OptRel1 : Option G1 → Option Fr → Prop
  | some P, some a => Rel1 P a
  | none, none => True
  | _, _ => False
def OptRel2 : Option G2 → Option Fr → Prop
  | some Q, some b => Rel2 Q b
  | none, none => True
  | _, _ => False

theorem lastOf_rel {regs : List Reg} {ds : List (Bool × Fr)} (h : List.Forall₂ RegRel regs ds) :
    OptRel1 (lastOf regs).1 (alastOf ds).1 ∧ OptRel2 (lastOf regs).2 (alastOf ds).2 := by
  refine List.rel_foldl (P := fun (acc : Option G1 × Option G2) (aacc : Option Fr × Option Fr) =>
    OptRel1 acc.1 aacc.1 ∧ OptRel2 acc.2 aacc.2) (R := RegRel) ?_
    (show OptRel1 none none ∧ OptRel2 none none from ⟨trivial, trivial⟩) h
  rintro acc aacc ⟨h1, h2⟩ R ⟨t, d⟩ hr
  obtain ⟨P, rfl, rfl, hP⟩ | ⟨P, rfl, rfl, hP⟩ := hr.inv
  exacts [⟨hP, h2⟩, ⟨h1, hP⟩]

theorem reYNonzero_of_rel {Q : G2} {d : Fr} (hQ : Rel2 Q d) (hz : Q.z = 1) (hy : Q.y.c0 ≠ 0) : ReYNonzero d := by
  intro x y h e
  obtain ⟨hn, ht⟩ := Jac.toAff_z_one b2 Q hz hQ.1
  rw [← (Affine.Point.some.inj ((ht.symm.trans hQ.2).trans e)).2]
  exact hy

/-- for a concrete `d` the side condition is decided by one kernel evaluation of `[d]P2` -/
theorem reYNonzero_of_compute (d : Fr) (hz : (Api.normalize ((G.one : G2).mul d)).z = 1)
    (hy : (Api.normalize ((G.one : G2).mul d)).y.c0 ≠ 0) : ReYNonzero d :=
  reYNonzero_of_rel (groupSim2.normalize (rel2_fresh d)) hz hy

theorem reYNonzero_one : ReYNonzero 1 :=
  reYNonzero_of_rel groupSim2.one rfl (by decide +kernel)

example : ReYNonzero (Fr.ofNat 2) := reYNonzero_of_compute _ (by decide +kernel) (by decide +kernel)

example : G2CompressedSafe [.one1, .one2, .zero2, .encdec 1 .compressed, .encdec 2 .compressed,
    .encdec 0 .compressed, .add 1 3, .encdec 6 .slice, .sub 0 5] :=
  .cons trivial rfl <| .cons trivial rfl <| .cons trivial rfl <|
  .cons (stepSafe_compressed (e := (false, 1)) rfl fun _ => reYNonzero_one) rfl <|
  .cons (stepSafe_compressed (e := (false, 0)) rfl fun _ => reYNonzero_zero) rfl <|
  .cons (stepSafe_compressed (e := (true, 1)) rfl nofun) rfl <|
  .cons trivial rfl <| .cons trivial rfl <| .cons trivial rfl trivial

example : NoG2Compressed [.one1, .one2, .zero2, .encdec 2 .compressed, .encdec 0 .compressed,
    .encdec 1 .uncompressed, .add 1 5, .mul 6 (Fr.ofNat 7), .affine 7] := by decide

end Sm9
