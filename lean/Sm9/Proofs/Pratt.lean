import Mathlib.NumberTheory.LucasPrimality
import Mathlib.Data.Nat.ModEq

/-! Pratt certificates: a checker that the kernel evaluates, sound by Mathlib's `lucas_primality` -/

/-- binary modular exponentiation; structural on fuel, so that the kernel evaluates it -/
def powModAux : Nat → Nat → Nat → Nat → Nat → Nat
  | 0, _, _, _, acc => acc
  | fuel+1, b, e, m, acc =>
    if e = 0 then acc else
    powModAux fuel (b * b % m) (e / 2) m (if e % 2 = 1 then acc * b % m else acc)

def powMod (b e m : Nat) : Nat := powModAux (e.log2 + 1) (b % m) e m (1 % m)

theorem powModAux_spec (fuel b e m acc : Nat) (h : e < 2 ^ fuel) :
    powModAux fuel b e m acc ≡ acc * b ^ e [MOD m] := by
  induction fuel generalizing b e acc with
  | zero =>
    have : e = 0 := by simpa using h
    subst this; simp [powModAux, Nat.ModEq]
  | succ n ih =>
    unfold powModAux
    split
    · next h0 => subst h0; simp [Nat.ModEq]
    · next h0 =>
      have hlt : e / 2 < 2 ^ n := by
        rw [Nat.div_lt_iff_lt_mul (by norm_num)]; rw [pow_succ] at h; exact h
      refine (ih _ _ _ hlt).trans ?_
      have he : e = 2 * (e / 2) + e % 2 := (Nat.div_add_mod e 2).symm
      have hsq : (b * b % m) ^ (e / 2) ≡ b ^ (2 * (e / 2)) [MOD m] := by
        rw [pow_mul, sq]; exact (Nat.mod_modEq _ _).pow _
      rcases Nat.mod_two_eq_zero_or_one e with h2 | h2
      · simp only [h2, show (0 : Nat) = 1 ↔ False by decide, if_false]
        conv_rhs => rw [he, h2, Nat.add_zero]
        exact hsq.mul_left _
      · simp only [h2, if_true]
        conv_rhs => rw [he, h2, pow_add, pow_one]
        calc acc * b % m * (b * b % m) ^ (e / 2)
            ≡ acc * b * b ^ (2 * (e / 2)) [MOD m] := (Nat.mod_modEq _ _).mul hsq
          _ = acc * (b ^ (2 * (e / 2)) * b) := by ring

theorem powMod_spec (b e m : Nat) : powMod b e m ≡ b ^ e [MOD m] := by
  unfold powMod
  refine (powModAux_spec _ _ _ _ _ (Nat.lt_log2_self (n := e))).trans ?_
  calc 1 % m * (b % m) ^ e ≡ 1 * b ^ e [MOD m] := (Nat.mod_modEq _ _).mul ((Nat.mod_modEq _ _).pow _)
    _ = b ^ e := one_mul _

theorem lucas_of_factors (p a : Nat) (fs : List Nat) (hp : 1 < p)
    (hfs : ∀ f ∈ fs, f.Prime)
    (hprod : fs.prod = p - 1)
    (h1 : powMod a (p - 1) p % p = 1)
    (h2 : ∀ f ∈ fs, powMod a ((p - 1) / f) p % p ≠ 1) : p.Prime := by
  have h1p : 1 % p = 1 := Nat.mod_eq_of_lt hp
  have hmod : ∀ e, ((a : ZMod p) ^ e = 1) ↔ powMod a e p % p = 1 := by
    intro e
    have := powMod_spec a e p
    rw [← Nat.cast_pow, ← Nat.cast_one, ZMod.natCast_eq_natCast_iff]
    unfold Nat.ModEq at this ⊢
    rw [h1p, ← this]
  apply lucas_primality p (a : ZMod p)
  · exact (hmod _).2 h1
  · intro l hl hdvd
    rw [← hprod] at hdvd
    obtain ⟨f, hf, hlf⟩ := (Prime.dvd_prod_iff (Nat.prime_iff.mp hl)).mp hdvd
    have : l = f := (Nat.prime_dvd_prime_iff_eq hl (hfs f hf)).mp hlf
    subst this
    rw [Ne, hmod]
    exact h2 l hf

/-- A Pratt certificate: each row `(p, a, fs)` claims that `a` has order `p - 1` modulo `p`, where `fs` lists the
    prime factors of `p - 1` with multiplicity; every factor must be the `p` of a later row. -/
abbrev PrattCert := List (Nat × Nat × List Nat)

def prattRowOk (below : List Nat) (p a : Nat) (fs : List Nat) : Bool :=
  decide (1 < p) && fs.all (fun f => decide (f ∈ below)) && decide (fs.prod = p - 1) &&
    decide (powMod a (p - 1) p % p = 1) && fs.all fun f => decide (powMod a ((p - 1) / f) p % p ≠ 1)

def prattCheck : PrattCert → Bool
  | [] => true
  | (p, a, fs) :: rest => prattRowOk (rest.map (·.1)) p a fs && prattCheck rest

theorem prattCheck_sound (cert : PrattCert) (h : prattCheck cert = true) : ∀ row ∈ cert, row.1.Prime := by
  induction cert with
  | nil => simp
  | cons row rest ih =>
    obtain ⟨p, a, fs⟩ := row
    simp only [prattCheck, prattRowOk, Bool.and_eq_true, decide_eq_true_eq, List.all_eq_true] at h
    obtain ⟨⟨⟨⟨⟨hp, hbelow⟩, hprod⟩, h1⟩, h2⟩, hrest⟩ := h
    have ih := ih hrest
    intro row hrow
    rcases List.mem_cons.1 hrow with rfl | hrow
    · refine lucas_of_factors p a fs hp (fun f hf => ?_) hprod h1 h2
      obtain ⟨row, hrow, rfl⟩ := List.mem_map.1 (hbelow f hf)
      exact ih row hrow
    · exact ih row hrow
