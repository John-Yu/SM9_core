import Sm9.Proofs.MillerFrobenius
/-!
# The prepared Miller loop computes the textbook Miller function, up to a factor in Fq2ˣ

`G2Prepared::from` followed by `G2Prepared::miller_loop` (pairings.rs) against `Miller.specMiller`.  The coefficient
list written by `from_` and read back by position is eliminated first (`from_miller_eq_fused`: one fold carrying the
Jacobian point and the accumulator together; no indexing panic is possible).  Then the invariant "the point represents
`[m]Q`, the accumulator is the textbook value up to `Fq2ˣ`" (`PrepInv`) is carried along the chain (`chain_sim`): the
order hypothesis `r • Q = 0` excludes `T = O`, `T = ±Q` in the loop (`chainOK_loop`: every multiplier `m` of the chain
has `0 < m`, `2m + 1 < r`), and `π(Q) = [q]Q` excludes the degenerate cases of the two Frobenius steps (`InG2.tail`).
The final exponentiation removes the factor (`ofFq2_pow_final`).
-/
namespace Sm9
namespace Miller
open WeierstrassCurve G2Prepared

/-- the point after the iteration `i` of `from_`, and the coefficients it appends -/
def prepNext (Q T : G2) (i : Nat) : G2 × List (Fq2 × Fq2 × Fq2) :=
  let r1 := G2m.g_tangent T
  if bit Consts.SM9_LOOP_N i then
    let r2 := G2m.g_line r1.1 Q
    (r2.1, [r1.2, r2.2])
  else (r1.1, [r1.2])

/-- multiplying the accumulator by the lines of a list of coefficients -/
def mulLines (t1 : Fq2) (x : Fq) (f : Fq12) (cs : List (Fq2 × Fq2 × Fq2)) : Fq12 :=
  cs.foldl (fun f c => f.mul_015 (get_fq12 c t1 x)) f

/-- one iteration of `from_` and `miller_loop` fused: the point walk and the accumulation together -/
def fusedStep (Q : G2) (t1 : Fq2) (x : Fq) (st : G2 × Fq12) (i : Nat) : G2 × Fq12 :=
  ((prepNext Q st.1 i).1, mulLines t1 x st.2.squared (prepNext Q st.1 i).2)

theorem prepStep_eq (Q T : G2) (cs : List (Fq2 × Fq2 × Fq2)) (i : Nat) :
    prepStep Q (T, cs) i = ((prepNext Q T i).1, cs ++ (prepNext Q T i).2) := by
  by_cases h : bit Consts.SM9_LOOP_N i <;> simp [prepStep, prepNext, h]

/-- the coefficients `from_` writes while walking `idx` from `T` -/
def coeffsFrom (Q : G2) (idx : List Nat) (T : G2) : List (Fq2 × Fq2 × Fq2) :=
  (idx.foldl (prepStep Q) (T, [])).2

theorem prepFold_eq (Q : G2) (idx : List Nat) (T : G2) (cs : List (Fq2 × Fq2 × Fq2)) :
    idx.foldl (prepStep Q) (T, cs) = ((idx.foldl (prepStep Q) (T, [])).1, cs ++ coeffsFrom Q idx T) := by
  induction idx generalizing T cs with
  | nil => simp [coeffsFrom]
  | cons i is ih =>
    unfold coeffsFrom
    rw [List.foldl_cons, List.foldl_cons, prepStep_eq, prepStep_eq, ih, ih _ ([] ++ _)]
    simp

theorem coeffsFrom_cons (Q : G2) (i : Nat) (is : List Nat) (T : G2) :
    coeffsFrom Q (i :: is) T = (prepNext Q T i).2 ++ coeffsFrom Q is (prepNext Q T i).1 := by
  unfold coeffsFrom
  rw [List.foldl_cons, prepStep_eq, prepFold_eq]
  simp [coeffsFrom]

/-- `mlStep` reads the coefficients of one iteration, wherever they stand in the list -/
theorem mlStep_eq (Q T : G2) (cs rest : List (Fq2 × Fq2 × Fq2)) (t1 : Fq2) (x : Fq) (f : Fq12) (k i : Nat)
    (h : cs.drop k = (prepNext Q T i).2 ++ rest) :
    mlStep cs t1 x (f, k) i
      = .ok (mulLines t1 x f.squared (prepNext Q T i).2, k + (prepNext Q T i).2.length) := by
  unfold prepNext at h ⊢
  unfold mlStep idx mulLines
  by_cases hb : bit Consts.SM9_LOOP_N i = true
  · simp only [hb, if_true, List.cons_append, List.nil_append] at h ⊢
    have h1 : cs[k]? = some (G2m.g_tangent T).2 := by
      rw [← List.head?_drop, h]; rfl
    have h2 : cs[k + 1]? = some (G2m.g_line (G2m.g_tangent T).1 Q).2 := by
      rw [← List.head?_drop, ← List.drop_drop, h]; rfl
    simp only [h1, h2, Outcome.unwrap, bind, Outcome.bind]
    rfl
  · simp only [hb, if_false, Bool.false_eq_true, List.cons_append, List.nil_append] at h ⊢
    have h1 : cs[k]? = some (G2m.g_tangent T).2 := by
      rw [← List.head?_drop, h]; rfl
    simp only [h1, Outcome.unwrap, bind, Outcome.bind]
    rfl

theorem mlTail_eq (cs : List (Fq2 × Fq2 × Fq2)) (t1 : Fq2) (x : Fq) (f : Fq12) (k i : Nat)
    (c1 : Fq2 × Fq2 × Fq2) (h1 : cs[k]? = some c1) :
    mlTail cs t1 x (f, k) i = .ok (f.mul_015 (get_fq12 c1 t1 x), k + 1) := by
  unfold mlTail idx
  simp only [h1, Outcome.unwrap, bind, Outcome.bind]
  rfl

theorem getElem?_mid {α} (pre post : List α) (c : α) : (pre ++ c :: post)[pre.length]? = some c := by
  simp

theorem getElem?_mid2 {α} (pre post : List α) (c d : α) : (pre ++ c :: d :: post)[pre.length + 1]? = some d := by
  simp

/-- the two loops of the code walk the same index list: `mlStep` over the coefficients that
    `prepStep` produced, found at any position `k` of the list, is the fused step -/
theorem fused_sim (Q : G2) (t1 : Fq2) (x : Fq) (cs post : List (Fq2 × Fq2 × Fq2)) (idx : List Nat) :
    ∀ (T : G2) (f : Fq12) (k : Nat), cs.drop k = coeffsFrom Q idx T ++ post →
      idx.foldlM (mlStep cs t1 x) (f, k)
        = .ok ((idx.foldl (fusedStep Q t1 x) (T, f)).2, k + (coeffsFrom Q idx T).length) ∧
      (idx.foldl (prepStep Q) (T, [])).1 = (idx.foldl (fusedStep Q t1 x) (T, f)).1 := by
  induction idx with
  | nil => intro T f k _; exact ⟨rfl, rfl⟩
  | cons i is ih =>
    intro T f k h
    rw [coeffsFrom_cons, List.append_assoc] at h
    obtain ⟨ih1, ih2⟩ := ih (prepNext Q T i).1 (mulLines t1 x f.squared (prepNext Q T i).2)
      (k + (prepNext Q T i).2.length) (by rw [← List.drop_drop, h, List.drop_left])
    constructor
    · rw [List.foldlM_cons, mlStep_eq Q T cs _ t1 x f k i h, Outcome.bind_ok, List.foldl_cons,
        coeffsFrom_cons, List.length_append, ← Nat.add_assoc]
      exact ih1
    · rw [List.foldl_cons, List.foldl_cons, prepStep_eq, prepFold_eq]
      exact ih2

/-- the value computed by `from_` followed by `miller_loop`, as one fold -/
noncomputable def fusedMiller (xP yP : Fq) (p : Fq2 × Fq2) : Fq12 :=
  let t1 := (Fq2.new yP 0).mul_by_nonresidue
  let st := loopIdx.foldl (fusedStep (affG2 p) t1 xP) (affG2 p, Fq12.one)
  let r1 := G2m.g_line st.1 (affG2 (frobTwist p))
  let r2 := G2m.g_line r1.1 (affG2 (frobTwist (frobTwist p))).neg
  mulLines t1 xP st.2 [r1.2, r2.2]

theorem from_miller_eq_fused (xP yP : Fq) (p : Fq2 × Fq2) :
    (do let pr ← G2Prepared.from_ (affG2 p); pr.miller_loop (⟨xP, yP, 1⟩ : G1))
      = .ok (fusedMiller xP yP p) := by
  have hzP : (⟨xP, yP, 1⟩ : G1).is_zero = false := by
    show Fq.is_zero (1 : Fq) = false
    decide +kernel
  unfold G2Prepared.from_ prepTail prepLoop
  rw [affG2_is_zero, prepFold_eq]
  simp only [Bool.false_eq_true, if_false, q_power_frobenius_eq, List.nil_append, Outcome.bind_ok]
  unfold G2Prepared.miller_loop
  generalize hc1 : (G2m.g_line _ (affG2 (frobTwist p))).2 = c1
  generalize hc2 : (G2m.g_line _ (G.neg (affG2 (frobTwist (frobTwist p))))).2 = c2
  have hne : (coeffsFrom (affG2 p) loopIdx (affG2 p) ++ [c1] ++ [c2]).isEmpty = false := by simp
  rw [hzP, hne]
  obtain ⟨s1, s2⟩ := fused_sim (affG2 p) (Fq2.new yP 0).mul_by_nonresidue xP
    (coeffsFrom (affG2 p) loopIdx (affG2 p) ++ [c1] ++ [c2]) [c1, c2] loopIdx (affG2 p) Fq12.one 0
    (by rw [List.drop_zero, List.append_assoc]; rfl)
  simp only [Bool.or_self, Bool.false_eq_true, if_false, s1, Outcome.bind_ok, zero_add, List.foldlM_cons,
    List.foldlM_nil]
  rw [mlTail_eq _ _ _ _ _ 0 c1 (by simp), Outcome.bind_ok, mlTail_eq _ _ _ _ _ 1 c2 (by simp), Outcome.bind_ok]
  unfold fusedMiller
  rw [← hc1, ← hc2, s2]
  rfl

theorem slope_tangent (x y : Fq2) (hy : y ≠ 0) :
    (Jac.Wb b2).slope x x y y = 3 * x ^ 2 / (2 * y) := by
  have hY : y ≠ (Jac.Wb b2).negY x y := by
    simp only [Affine.negY, Jac.Wb, zero_mul, sub_zero]
    intro h
    have : 2 * y = 0 := by linear_combination h
    rcases mul_eq_zero.mp this with h' | h'
    · exact Fq2.two_ne_zero h'
    · exact hy h'
  rw [Affine.slope_of_Y_ne rfl hY]
  simp only [Affine.negY, Jac.Wb, zero_mul, mul_zero, add_zero, sub_zero]
  congr 1; ring

theorem slope_chord (x1 x2 y1 y2 : Fq2) (hx : x1 ≠ x2) :
    (Jac.Wb b2).slope x1 x2 y1 y2 = (y2 - y1) / (x2 - x1) := by
  rw [Affine.slope_of_X_ne hx, ← neg_sub y2 y1, ← neg_sub x2 x1, neg_div_neg_eq]

section lines
variable {T R : G2} {S S' : (Jac.Wb b2).Point}

theorem lineVal_tangent (ℓ : Fq2 → Fq2 → Fq2 → Fq12) (h : Rep T S) :
    lineVal (Jac.Wb b2) ℓ S S
      = ℓ (T.x / T.z ^ 2) (T.y / T.z ^ 3) (3 * (T.x / T.z ^ 2) ^ 2 / (2 * (T.y / T.z ^ 3))) := by
  rw [h.eq_some, lineVal_some, slope_tangent _ _ h.y_ne_zero]

theorem lineVal_chord (ℓ : Fq2 → Fq2 → Fq2 → Fq12) (h : Rep T S) (h' : Rep R S') (hne : S ≠ S')
    (hne' : S ≠ -S') :
    lineVal (Jac.Wb b2) ℓ S S'
      = ℓ (T.x / T.z ^ 2) (T.y / T.z ^ 3)
          ((R.y / R.z ^ 3 - T.y / T.z ^ 3) / (R.x / R.z ^ 2 - T.x / T.z ^ 2)) := by
  rw [h.eq_some, h'.eq_some, lineVal_some, slope_chord _ _ _ _ (h.x_ne h' hne hne')]

/-- `f = κ·g` with `κ ∈ Fq2ˣ` (the final exponentiation kills such factors) -/
def UpToFq2 (f g : Fq12) : Prop := ∃ κ : Fq2, κ ≠ 0 ∧ f = Fq12.ofFq2 κ * g

theorem UpToFq2.refl (f : Fq12) : UpToFq2 f f := ⟨1, one_ne_zero, by rw [map_one, one_mul]⟩

theorem UpToFq2.mul {f g f' g' : Fq12} (h : UpToFq2 f g) (h' : UpToFq2 f' g') : UpToFq2 (f * f') (g * g') := by
  obtain ⟨κ, hκ, rfl⟩ := h
  obtain ⟨κ', hκ', rfl⟩ := h'
  exact ⟨κ * κ', mul_ne_zero hκ hκ', by rw [map_mul]; ring⟩

theorem g_tangent_lineVal (xP yP : Fq) (h : Rep T S) :
    UpToFq2 (get_fq12 (G2m.g_tangent T).2 (Fq2.new yP 0).mul_by_nonresidue xP)
      (lineVal (Jac.Wb b2) (lineAt xP yP) S S) := by
  obtain ⟨-, hc0, e⟩ := g_tangent_line T xP yP h.z (fun hy => h.y_ne_zero (by rw [hy, zero_div]))
  exact ⟨_, mul_ne_zero hc0 Fq2.i_ne_zero, by rw [e, lineVal_tangent _ h]; rfl⟩

theorem g_line_lineVal (xP yP : Fq) (h : Rep T S) (h' : Rep R S') (hz : R.z = 1) (hne : S ≠ S')
    (hne' : S ≠ -S') :
    UpToFq2 (get_fq12 (G2m.g_line T R).2 (Fq2.new yP 0).mul_by_nonresidue xP)
      (lineVal (Jac.Wb b2) (lineAt xP yP) S S') := by
  have hx := h.x_ne h' hne hne'
  have e := lineVal_chord (lineAt xP yP) h h' hne hne'
  simp only [hz, one_pow, div_one] at hx e
  obtain ⟨-, -, hc0, e'⟩ := g_line_line T R xP yP h.z hz hx
  exact ⟨_, mul_ne_zero hc0 Fq2.i_ne_zero, by rw [e', e]; rfl⟩

end lines

section loop
variable (xP yP : Fq) (p : Fq2 × Fq2) (hp : p.2 * p.2 = p.1 * p.1 * p.1 + b2) (hord : r • twPt p = 0)

/-- invariant of the prepared loop at the multiplier `m`: the Jacobian point represents `[m]Q`, the
    accumulator is the textbook value up to `Fq2ˣ` -/
def PrepInv (m : Nat) (c : G2 × Fq12) (s : (Jac.Wb b2).Point × Fq12) : Prop :=
  Rep c.1 s.1 ∧ s.1 = m • twPt p ∧ UpToFq2 c.2 s.2

include hp hord in
theorem fusedStep_refines (m : Nat) (c : G2 × Fq12) (s : (Jac.Wb b2).Point × Fq12) (i : Nat) (hm : 0 < m)
    (hmr : 2 * m + 1 < r) (h : PrepInv p m c s) :
    PrepInv p (2 * m + (if bit Consts.SM9_LOOP_N i then 1 else 0))
      (fusedStep (affG2 p) (Fq2.new yP 0).mul_by_nonresidue xP c i)
      (specStep (Jac.Wb b2) (lineAt xP yP) (twPt p) Consts.SM9_LOOP_N s i) := by
  obtain ⟨hT, hS, hf⟩ := h
  have h0 := twPt_ne_zero p hp
  have h2m : s.1 + s.1 = (2 * m) • twPt p := by rw [hS, mul_smul, two_smul]
  have hd : Rep (G2m.g_tangent c.1).1 (s.1 + s.1) := hT.double
  have fd : UpToFq2 ((c.2.squared).mul_015 (get_fq12 (G2m.g_tangent c.1).2 (Fq2.new yP 0).mul_by_nonresidue xP))
      (s.2 * s.2 * lineVal (Jac.Wb b2) (lineAt xP yP) s.1 s.1) := by
    rw [mul_015_get_fq12, Fq12.squared_eq_mul]
    exact (hf.mul hf).mul (g_tangent_lineVal xP yP hT)
  unfold fusedStep prepNext mulLines specStep
  by_cases hb : bit Consts.SM9_LOOP_N i = true
  · have hne : s.1 + s.1 ≠ twPt p := h2m ▸ nsmul_ne_self hord h0 (by omega) (by omega)
    have hne' : s.1 + s.1 ≠ -twPt p := h2m ▸ nsmul_ne_neg hord h0 hmr
    simp only [if_pos hb, List.foldl_cons, List.foldl_nil]
    refine ⟨hd.add (rep_affG2 p hp) hne hne', by rw [h2m, add_smul, one_smul], ?_⟩
    rw [mul_015_get_fq12 _ (G2m.g_line _ _).2]
    exact fd.mul (g_line_lineVal xP yP hd (rep_affG2 p hp) rfl hne hne')
  · simp only [if_neg hb, List.foldl_cons, List.foldl_nil, add_zero]
    exact ⟨hd, h2m, fd⟩

include hp hord in
theorem loop_refines :
    PrepInv p Consts.SM9_LOOP_N
      (loopIdx.foldl (fusedStep (affG2 p) (Fq2.new yP 0).mul_by_nonresidue xP) (affG2 p, Fq12.one))
      (specLoop (Jac.Wb b2) (lineAt xP yP) (twPt p) Consts.SM9_LOOP_N loopIdx) := by
  have h : PrepInv p (chainVal Consts.SM9_LOOP_N loopIdx 1) _ _ := chain_sim _ (PrepInv p) _ _
    (fun m c s i hm hmr h => fusedStep_refines xP yP p hp hord m c s i hm hmr h) loopIdx 1
    (affG2 p, Fq12.one) (twPt p, 1) (by rw [← chainOK_eq]; exact chainOK_loop)
    ⟨rep_affG2 p hp, (one_smul _ _).symm, UpToFq2.refl 1⟩
  rw [chainVal_loop] at h
  exact h

end loop

local notation "E" => ((q ^ 12 - 1) / r)

theorem fused_refines (xP yP : Fq) (p : Fq2 × Fq2) (hp : p.2 * p.2 = p.1 * p.1 * p.1 + b2)
    (hG : InG2 (twPt p)) : UpToFq2 (fusedMiller xP yP p) (specM (lineAt xP yP) (twPt p)) := by
  obtain ⟨t1, t2, t3, t4⟩ := hG.tail (twPt_ne_zero p hp)
  have hp1 := frobTwist_equation p hp
  have hR1 : Rep (affG2 (frobTwist p)) (frobHom (twPt p)) := frobHom_twPt p hp ▸ rep_affG2 _ hp1
  have hR2 : Rep (affG2 (frobTwist (frobTwist p))).neg (-frobHom (frobHom (twPt p))) := by
    rw [frobHom_twPt p hp, frobHom_twPt _ hp1]
    exact (rep_affG2 _ (frobTwist_equation _ hp1)).neg
  have hl := loop_refines xP yP p hp hG.1
  unfold fusedMiller specM specTail mulLines
  simp only [List.foldl_cons, List.foldl_nil]
  -- the two folds are named before anything is compared: unifying them unfolded does not end
  generalize loopIdx.foldl (fusedStep (affG2 p) (Fq2.new yP 0).mul_by_nonresidue xP) (affG2 p, Fq12.one) = C at hl ⊢
  generalize specLoop (Jac.Wb b2) (lineAt xP yP) (twPt p) Consts.SM9_LOOP_N loopIdx = St at hl ⊢
  obtain ⟨l1, l2, l3⟩ := hl
  rw [l2] at l1 ⊢
  rw [mul_015_get_fq12, mul_015_get_fq12]
  exact (l3.mul (g_line_lineVal xP yP l1 hR1 rfl t1 t2)).mul
    (g_line_lineVal xP yP (l1.add hR1 t1 t2) hR2 (by rw [affG2_neg]; rfl) t3 (by rw [neg_neg]; exact t4))

/-- **C02/C03/C17: the prepared Miller loop is the textbook Miller function up to `Fq2ˣ`**, for every
    `Q ≠ O` of the twist with `r • Q = O` and `π(Q) = [q]Q` -/
theorem prepared_miller_eq_specM (xP yP : Fq) (xQ yQ : Fq2) (hQ : yQ * yQ = xQ * xQ * xQ + b2)
    (hG : InG2 (twPt (xQ, yQ))) :
    ∃ κ : Fq2, κ ≠ 0 ∧
      (do let pr ← G2Prepared.from_ (⟨xQ, yQ, 1⟩ : G2); pr.miller_loop (⟨xP, yP, 1⟩ : G1))
        = .ok (Fq12.ofFq2 κ * specM (lineAt xP yP) (twPt (xQ, yQ))) := by
  obtain ⟨κ, hκ, h⟩ := fused_refines xP yP (xQ, yQ) hQ hG
  exact ⟨κ, hκ, h ▸ from_miller_eq_fused xP yP (xQ, yQ)⟩

/-- **`fast_pairing` is the textbook R-ate pairing**: the reduced value of the textbook Miller
    function -/
theorem fast_pairing_eq_specM (xP yP : Fq) (hyP : yP ≠ 0) (xQ yQ : Fq2)
    (hQ : yQ * yQ = xQ * xQ * xQ + b2) (hG : InG2 (twPt (xQ, yQ))) :
    Pairings.fast_pairing (⟨xP, yP, 1⟩ : G1) (⟨xQ, yQ, 1⟩ : G2)
      = .ok (specM (lineAt xP yP) (twPt (xQ, yQ)) ^ E) := by
  obtain ⟨κ, hκ, h⟩ := prepared_miller_eq_specM xP yP xQ yQ hQ hG
  obtain ⟨pr, hpr⟩ := prepared_from_ok (⟨xQ, yQ, 1⟩ : G2)
  rw [hpr, Outcome.bind_ok] at h
  have hx := mul_ne_zero (Fq12.ofFq2_ne_zero hκ) (specM_lineAt_ne_zero xP yP hyP (twPt (xQ, yQ)))
  unfold Pairings.fast_pairing
  rw [hpr, Outcome.bind_ok, h, Outcome.bind_ok, Fq12.final_exp_eq_pow _ hx, Outcome.bind_ok,
    Outcome.unwrap_some, mul_pow, ofFq2_pow_final κ hκ, one_mul]

theorem twPt_of_valid (Q : G2) (hz : Q.z ≠ 0) (hv : G2.Valid Q) :
    (Q.y / Q.z ^ 3) * (Q.y / Q.z ^ 3) = (Q.x / Q.z ^ 2) * (Q.x / Q.z ^ 2) * (Q.x / Q.z ^ 2) + b2 ∧
    twPt (Q.x / Q.z ^ 2, Q.y / Q.z ^ 3) = G2.toAff Q :=
  ⟨Jac.affine_equation hv hz, (Jac.toAff_affine hv hz).2⟩

/-- **`sm9_core::fast_pairing`** on arbitrary Jacobian representatives of `P ∈ E(Fq)`, `Q ∈ G2`
    (neither the identity): the reduced textbook Miller function at the points they denote -/
theorem api_fast_pairing_eq_specM (P : G1) (Q : G2) (hPz : P.z ≠ 0) (hPy : P.y ≠ 0) (hQz : Q.z ≠ 0)
    (hQv : G2.Valid Q) (hG : InG2 (G2.toAff Q)) :
    Api.fast_pairing P Q = .ok (specM (lineAt (P.x / P.z ^ 2) (P.y / P.z ^ 3)) (G2.toAff Q) ^ E) := by
  obtain ⟨he, hpt⟩ := twPt_of_valid Q hQz hQv
  unfold Api.fast_pairing
  rw [G1.normalize_of_z_ne P hPz, G2.normalize_of_z_ne Q hQz, ← hpt]
  exact fast_pairing_eq_specM _ _ (div_ne_zero hPy (pow_ne_zero _ hPz)) _ _ he (hpt ▸ hG)

theorem prepared_miller_eq_spec_G2 (xP yP : Fq) (xQ yQ : Fq2) (hQ : yQ * yQ = xQ * xQ * xQ + b2)
    (k : Nat) (hk : twPt (xQ, yQ) = k • twPt genXY) :
    ∃ κ : Fq2, κ ≠ 0 ∧
      (do let pr ← G2Prepared.from_ (⟨xQ, yQ, 1⟩ : G2); pr.miller_loop (⟨xP, yP, 1⟩ : G1))
        = .ok (Fq12.ofFq2 κ * specMiller xP yP xQ yQ) :=
  specMiller_eq_specM xP yP xQ yQ hQ ▸ prepared_miller_eq_specM xP yP xQ yQ hQ (inG2_of_multiple k (twPt_gen ▸ hk))

theorem fast_pairing_eq_spec_G2 (xP yP : Fq) (hyP : yP ≠ 0) (xQ yQ : Fq2)
    (hQ : yQ * yQ = xQ * xQ * xQ + b2) (k : Nat) (hk : twPt (xQ, yQ) = k • twPt genXY) :
    Pairings.fast_pairing (⟨xP, yP, 1⟩ : G1) (⟨xQ, yQ, 1⟩ : G2)
      = .ok (specMiller xP yP xQ yQ ^ ((q ^ 12 - 1) / r)) :=
  specMiller_eq_specM xP yP xQ yQ hQ ▸ fast_pairing_eq_specM xP yP hyP xQ yQ hQ (inG2_of_multiple k (twPt_gen ▸ hk))

/-- **`sm9_core::fast_pairing`** for any Jacobian representatives of a point `P ≠ O` of `E(Fq)` and
    a point `Q ≠ O` of `⟨P2⟩` -/
theorem api_fast_pairing_eq_spec_G2 (P : G1) (Q : G2) (hPz : P.z ≠ 0) (hPv : G1.Valid P) (hQz : Q.z ≠ 0)
    (hQv : G2.Valid Q) (k : Nat) (hk : G2.toAff Q = k • G2.toAff (G.one : G2)) :
    Api.fast_pairing P Q
      = .ok (specMiller (P.x / P.z ^ 2) (P.y / P.z ^ 3) (Q.x / Q.z ^ 2) (Q.y / Q.z ^ 3) ^ ((q ^ 12 - 1) / r)) := by
  obtain ⟨he, hpt⟩ := twPt_of_valid Q hQz hQv
  rw [specMiller_eq_specM _ _ _ _ he, hpt]
  exact api_fast_pairing_eq_specM P Q hPz (Jac.y_ne_zero b1 Fq.no_two_torsion P (hPv.resolve_left hPz))
    hQz hQv (inG2_of_multiple k hk)

theorem fast_pairing_generator (xP yP : Fq) (hyP : yP ≠ 0) :
    Pairings.fast_pairing (⟨xP, yP, 1⟩ : G1) (G.one : G2)
      = .ok (specMiller xP yP genXY.1 genXY.2 ^ ((q ^ 12 - 1) / r)) :=
  fast_pairing_eq_spec_G2 xP yP hyP genXY.1 genXY.2 gen_on_twist 1 (one_nsmul _).symm

theorem api_prepared_eq_fast (P : G1) (Q : G2) :
    (do let pr ← Api.prepare Q; Api.preparedPairing pr P) = Api.fast_pairing P Q := rfl

/-- the refinement for every twist point of order `r`, **conditional on `TorsionCyclic`** (what is
    missing for the unconditional statement is exactly that hypothesis; for `Q ∈ ⟨P2⟩` see
    `prepared_miller_eq_spec_G2`, for `Q` with `π(Q) = [q]Q` see `prepared_miller_eq_specM`) -/
theorem prepared_miller_eq_spec_order_r_partial (hcyc : TorsionCyclic) (xP yP : Fq) (xQ yQ : Fq2)
    (hQ : yQ * yQ = xQ * xQ * xQ + b2) (hord : r • twPt (xQ, yQ) = 0) :
    ∃ κ : Fq2, κ ≠ 0 ∧
      (do let pr ← G2Prepared.from_ (⟨xQ, yQ, 1⟩ : G2); pr.miller_loop (⟨xP, yP, 1⟩ : G1))
        = .ok (Fq12.ofFq2 κ * specMiller xP yP xQ yQ) :=
  specMiller_eq_specM xP yP xQ yQ hQ ▸ prepared_miller_eq_specM xP yP xQ yQ hQ (hcyc.inG2 (xQ, yQ) hQ hord)

theorem fast_pairing_eq_spec_order_r_partial (hcyc : TorsionCyclic) (xP yP : Fq) (hyP : yP ≠ 0) (xQ yQ : Fq2)
    (hQ : yQ * yQ = xQ * xQ * xQ + b2) (hord : r • twPt (xQ, yQ) = 0) :
    Pairings.fast_pairing (⟨xP, yP, 1⟩ : G1) (⟨xQ, yQ, 1⟩ : G2)
      = .ok (specMiller xP yP xQ yQ ^ ((q ^ 12 - 1) / r)) :=
  specMiller_eq_specM xP yP xQ yQ hQ ▸ fast_pairing_eq_specM xP yP hyP xQ yQ hQ (hcyc.inG2 (xQ, yQ) hQ hord)

example (xP yP : Fq) (hyP : yP ≠ 0) :
    Pairings.fast_pairing (⟨xP, yP, 1⟩ : G1) (⟨genXY.1, genXY.2, 1⟩ : G2)
      = .ok (specMiller xP yP genXY.1 genXY.2 ^ ((q ^ 12 - 1) / r)) :=
  fast_pairing_eq_spec_G2 xP yP hyP genXY.1 genXY.2 gen_on_twist 1 (one_nsmul _).symm

end Miller
end Sm9
