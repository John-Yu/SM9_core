import Sm9.Proofs.MillerNafSpec
import Sm9.Proofs.PointMap
import Sm9.Proofs.RepIndep
/-!
# `G2` as a set of points of Mathlib's group of the twist, and the Miller function at such a point

Coordinates `twPt`, Jacobian representatives `Rep`, the `q`-power Frobenius `frobHom` (an endomorphism), and
`InG2 B`: `B ∈ G2 = E′(Fq2)[r] ∩ ker(π − q)`, which contains `⟨P2⟩` (equality is `TorsionCyclic`, not proved).  `specM ℓ Q`,
`specMNaf ℓ Q` are the two textbook Miller functions at a point `Q`, generic in the line values; `specM_rel` carries a
relation of line values along an endomorphism commuting with `π`.  What `r ∣ 6t+2 + q − q² + q³` means for a point of `G2`
and for exponents (`InG2.rate_point`, `rate_correction`) serves both additivity proofs.
-/
namespace Sm9
namespace Miller
open WeierstrassCurve

def affG2 (p : Fq2 × Fq2) : G2 := ⟨p.1, p.2, 1⟩

theorem affG2_is_zero (p : Fq2 × Fq2) : (affG2 p).is_zero = false := by
  show Fq2.is_zero (1 : Fq2) = false
  decide +kernel

theorem affG2_neg (p : Fq2 × Fq2) : (affG2 p).neg = affG2 (p.1, -p.2) := by
  unfold G.neg
  rw [affG2_is_zero]
  rfl

theorem twPt_eq (p : Fq2 × Fq2) : twPt p = G2.toAff (affG2 p) := rfl

theorem affG2_valid (p : Fq2 × Fq2) (hp : p.2 * p.2 = p.1 * p.1 * p.1 + b2) : G2.Valid (affG2 p) :=
  G2.valid_of_equation p.1 p.2 hp

theorem twPt_some (p : Fq2 × Fq2) (hp : p.2 * p.2 = p.1 * p.1 * p.1 + b2) :
    ∃ h : (Jac.Wb b2).Nonsingular p.1 p.2, twPt p = .some p.1 p.2 h :=
  Jac.toAff_z_one b2 (affG2 p) rfl (affG2_valid p hp)

theorem twPt_ne_zero (p : Fq2 × Fq2) (hp : p.2 * p.2 = p.1 * p.1 * p.1 + b2) : twPt p ≠ 0 := by
  obtain ⟨h, e⟩ := twPt_some p hp
  exact e ▸ Affine.Point.some_ne_zero _

theorem pi1F_inverse : (Fq2.new pi1 0).inverse = some pi1F⁻¹ := Fq2.inverse_eq_inv pi1F pi1F_ne_zero

theorem q_power_frobenius_eq (p : Fq2 × Fq2) :
    G2m.q_power_frobenius (affG2 p) (Fq2.new pi1 0) = some (affG2 (frobTwist p)) := by
  unfold G2m.q_power_frobenius
  rw [pi1F_inverse]
  simp only [G.new, affG2, frobTwist, one_unitary_inverse, Fq2.squared_eq_mul, Option.some.injEq, G.mk.injEq, and_true]
  constructor <;> ring

/-- `T` is a Jacobian representative (`z ≠ 0`) of the point `S ≠ O` of the twist -/
structure Rep (T : G2) (S : (Jac.Wb b2).Point) : Prop where
  z : T.z ≠ 0
  valid : G2.Valid T
  toAff : G2.toAff T = S

namespace Rep
variable {T R : G2} {S S' : (Jac.Wb b2).Point}

theorem nonsingular (h : Rep T S) : (Jac.Wb b2).Nonsingular (T.x / T.z ^ 2) (T.y / T.z ^ 3) :=
  h.valid.resolve_left h.z

theorem eq_some (h : Rep T S) : S = .some _ _ h.nonsingular :=
  h.toAff.symm.trans (G2.toAff_some T h.z h.nonsingular)

theorem y_ne_zero (h : Rep T S) : T.y / T.z ^ 3 ≠ 0 :=
  div_ne_zero (Jac.y_ne_zero b2 Fq2.no_two_torsion T h.nonsingular) (pow_ne_zero _ h.z)

theorem of_ne_zero (hv : G2.Valid T) (hS : G2.toAff T = S) (h0 : S ≠ 0) : Rep T S :=
  ⟨fun hz => h0 (hS ▸ G2.toAff_zero T hz), hv, hS⟩

/-- no point of the twist has order 2, so doubling needs no side condition -/
protected theorem double (h : Rep T S) : Rep T.double (S + S) := by
  refine of_ne_zero (fe_Fq2_eq ▸ Jac.double_valid b2 Fq2.two_ne_zero T h.valid)
    (by rw [G2.double_correct T h.valid, h.toAff]) ?_
  rw [h.eq_some, Affine.Point.add_self_of_Y_ne (Jac.ne_negY b2 T.x T.y T.z Fq2.two_ne_zero
    (Jac.y_ne_zero b2 Fq2.no_two_torsion T h.nonsingular) h.z)]
  exact Affine.Point.some_ne_zero _

theorem x_ne (h : Rep T S) (h' : Rep R S') (hne : S ≠ S') (hne' : S ≠ -S') :
    T.x / T.z ^ 2 ≠ R.x / R.z ^ 2 := by
  intro e
  rcases (Affine.Point.X_eq_iff (h₁ := h.nonsingular) (h₂ := h'.nonsingular)).1 e with e' | e'
  · exact hne (by rw [h.eq_some, h'.eq_some]; exact e')
  · exact hne' (by rw [h.eq_some, h'.eq_some]; exact e')

protected theorem add (h : Rep T S) (h' : Rep R S') (hne : S ≠ S') (hne' : S ≠ -S') :
    Rep (T.add R) (S + S') := by
  refine of_ne_zero (G2.add_valid T R h.valid h'.valid)
    (by rw [G2.add_correct T R h.valid h'.valid, h.toAff, h'.toAff]) ?_
  rw [h.eq_some, h'.eq_some, Affine.Point.add_of_X_ne (h.x_ne h' hne hne')]
  exact Affine.Point.some_ne_zero _

protected theorem neg (h : Rep T S) : Rep T.neg (-S) :=
  ⟨by unfold G.neg; split <;> exact h.z, G2.neg_valid T h.valid, by rw [G2.neg_correct T h.valid, h.toAff]⟩

end Rep

theorem rep_affG2 (p : Fq2 × Fq2) (hp : p.2 * p.2 = p.1 * p.1 * p.1 + b2) : Rep (affG2 p) (twPt p) :=
  ⟨one_ne_zero, affG2_valid p hp, rfl⟩

theorem rep_of_affine (R : G2) (hz : R.z ≠ 0) (p : Fq2 × Fq2) (hp : p.2 * p.2 = p.1 * p.1 * p.1 + b2)
    (h : (R.x / R.z ^ 2, R.y / R.z ^ 3) = p) : Rep R (twPt p) := by
  subst h
  obtain ⟨hn, e⟩ := twPt_some _ hp
  exact ⟨hz, Or.inr hn, by rw [e]; exact G2.toAff_some R hz hn⟩

theorem frob_coeff : conj b2 * pi1F⁻¹ ^ 6 = b2 := by
  rw [conj_apply, conj_b2, pi1F_inv_pow6]; ring

/-- `π` on `E′(Fq2)`, a group endomorphism -/
noncomputable def frobHom := ptMapHom b2 conj pi1F⁻¹ (inv_ne_zero pi1F_ne_zero) frob_coeff

theorem frobHom_twPt (p : Fq2 × Fq2) (hp : p.2 * p.2 = p.1 * p.1 * p.1 + b2) :
    frobHom (twPt p) = twPt (frobTwist p) := by
  obtain ⟨h, e⟩ := twPt_some p hp
  obtain ⟨h', e'⟩ := twPt_some _ (frobTwist_equation p hp)
  rw [e, e']
  show ptMap b2 conj pi1F⁻¹ (inv_ne_zero pi1F_ne_zero) frob_coeff (.some p.1 p.2 h) = _
  rw [ptMap_some]
  simp only [Affine.Point.some.injEq]
  exact ⟨rfl, rfl⟩

theorem frobHom_ne_zero {A : (Jac.Wb b2).Point} (hA : A ≠ 0) : frobHom A ≠ 0 := by
  obtain ⟨x, y, h, rfl⟩ := exists_some_of_ne_zero _ hA
  exact Affine.Point.some_ne_zero _

/-- the Miller function of the R-ate pairing at a point `Q` of the twist, generic in the line values -/
noncomputable def specM {K : Type} [Mul K] [One K] (ℓ : Fq2 → Fq2 → Fq2 → K)
    (Q : (Jac.Wb b2).Point) : K :=
  specTail (Jac.Wb b2) ℓ (frobHom Q) (frobHom (frobHom Q))
    (specLoop (Jac.Wb b2) ℓ Q Consts.SM9_LOOP_N loopIdx)

/-- the same along the signed-digit chain -/
noncomputable def specMNaf {K : Type} [Mul K] [One K] (ℓ : Fq2 → Fq2 → Fq2 → K)
    (Q : (Jac.Wb b2).Point) : K :=
  specTail (Jac.Wb b2) ℓ (frobHom Q) (frobHom (frobHom Q))
    (specLoopNaf (Jac.Wb b2) ℓ Q Consts.SM9_LOOP_COUNT)

theorem specMiller_eq_specM (xP yP : Fq) (x y : Fq2) (h : y * y = x * x * x + b2) :
    specMiller xP yP x y = specM (lineAt xP yP) (twPt (x, y)) := by
  unfold specMiller specM
  rw [frobHom_twPt (x, y) h, frobHom_twPt _ (frobTwist_equation (x, y) h)]

theorem specMillerNaf_eq_specMNaf (xP yP : Fq) (x y : Fq2) (h : y * y = x * x * x + b2) :
    specMillerNaf xP yP x y = specMNaf (lineAt xP yP) (twPt (x, y)) := by
  unfold specMillerNaf specMNaf
  rw [frobHom_twPt (x, y) h, frobHom_twPt _ (frobTwist_equation (x, y) h)]

section rel
variable {K K' : Type} [Mul K] [One K] [Mul K'] [One K'] {ℓ : Fq2 → Fq2 → Fq2 → K}
  {ℓ' : Fq2 → Fq2 → Fq2 → K'} (g : (Jac.Wb b2).Point →+ (Jac.Wb b2).Point) (R : K → K' → Prop)
  (hg : ∀ A, g (frobHom A) = frobHom (g A))
  (h1 : R 1 1) (hmul : ∀ {a b c d}, R a b → R c d → R (a * c) (b * d))
  (hℓ : ∀ A B, R (lineVal (Jac.Wb b2) ℓ A B) (lineVal (Jac.Wb b2) ℓ' (g A) (g B)))
include hg h1 hmul hℓ

/-- an endomorphism `g` of the twist that commutes with `π` and a relation `R` of the values that `1`, `*`
    and the lines respect: the Miller functions at `Q` and at `g Q` are related -/
theorem specM_rel (Q : (Jac.Wb b2).Point) : R (specM ℓ Q) (specM ℓ' (g Q)) := by
  unfold specM
  rw [← hg, ← hg]
  exact specTail_rel g R hmul hℓ _ _ (specLoop_rel g R h1 hmul hℓ Q _ _)

theorem specMNaf_rel (Q : (Jac.Wb b2).Point) : R (specMNaf ℓ Q) (specMNaf ℓ' (g Q)) := by
  unfold specMNaf
  rw [← hg, ← hg]
  exact specTail_rel g R hmul hℓ _ _ (specLoopNaf_rel g R h1 hmul hℓ Q _)
end rel

section natural
variable {K K' : Type} [MulOneClass K] [MulOneClass K'] {ℓ : Fq2 → Fq2 → Fq2 → K}
  {ℓ' : Fq2 → Fq2 → Fq2 → K'} (g : (Jac.Wb b2).Point →+ (Jac.Wb b2).Point) (φ : K →* K')
  (hg : ∀ A, g (frobHom A) = frobHom (g A))
  (h : ∀ A B, lineVal (Jac.Wb b2) ℓ' (g A) (g B) = φ (lineVal (Jac.Wb b2) ℓ A B))
include hg h

/-- the functional case: `φ` a homomorphism of the values that carries lines to lines -/
theorem specM_natural (Q : (Jac.Wb b2).Point) : specM ℓ' (g Q) = φ (specM ℓ Q) :=
  specM_rel g (fun a b => b = φ a) hg (map_one φ).symm
    (by rintro _ _ _ _ rfl rfl; exact (map_mul φ _ _).symm) h Q

theorem specMNaf_natural (Q : (Jac.Wb b2).Point) : specMNaf ℓ' (g Q) = φ (specMNaf ℓ Q) :=
  specMNaf_rel g (fun a b => b = φ a) hg (map_one φ).symm
    (by rintro _ _ _ _ rfl rfl; exact (map_mul φ _ _).symm) h Q
end natural

theorem specM_lineAt_ne_zero (xP yP : Fq) (hy : yP ≠ 0) (Q : (Jac.Wb b2).Point) : specM (lineAt xP yP) Q ≠ 0 := by
  unfold specM
  rw [specLoop_eq_naf]
  exact specTail_loopNaf_ne_zero _ _ (fun x y l => lineSpec_ne_zero x y l xP yP hy) _ _ _ _

theorem specMNaf_lineAt_ne_zero (xP yP : Fq) (hy : yP ≠ 0) (Q : (Jac.Wb b2).Point) :
    specMNaf (lineAt xP yP) Q ≠ 0 :=
  specTail_loopNaf_ne_zero _ _ (fun x y l => lineSpec_ne_zero x y l xP yP hy) _ _ _ _

theorem tail_cond : ¬ (r : ℤ) ∣ Consts.SM9_LOOP_N - q ∧ ¬ (r : ℤ) ∣ Consts.SM9_LOOP_N + q ∧
    ¬ (r : ℤ) ∣ Consts.SM9_LOOP_N + q + q * q ∧ ¬ (r : ℤ) ∣ Consts.SM9_LOOP_N + q - q * q := by decide +kernel

/-- the non-degeneracy hypotheses of the two Frobenius steps follow from the eigenvalue property
    `π(Q) = [q]Q` of `G2`: each excluded equation says `[z]Q = O` for one of the four `z` of `tail_cond` -/
theorem tail_of_eigen {A : Type} [AddGroup A] {Qp Q1 Q2 : A} (hr : r • Qp = 0) (h0 : Qp ≠ 0)
    (hE1 : Q1 = q • Qp) (hE2 : Q2 = q • Q1) :
    Consts.SM9_LOOP_N • Qp ≠ Q1 ∧ Consts.SM9_LOOP_N • Qp ≠ -Q1 ∧
    Consts.SM9_LOOP_N • Qp + Q1 ≠ -Q2 ∧ Consts.SM9_LOOP_N • Qp + Q1 ≠ Q2 := by
  obtain ⟨c1, c2, c3, c4⟩ := tail_cond
  have key := zsmul_eq_zero_iff_dvd hr h0
  subst hE1 hE2
  refine ⟨fun h => c1 ((key _).1 ?_), fun h => c2 ((key _).1 ?_), fun h => c3 ((key _).1 ?_),
    fun h => c4 ((key _).1 ?_)⟩
  all_goals simp only [add_zsmul, sub_zsmul, mul_zsmul, natCast_zsmul]
  · rw [h, add_neg_cancel]
  · rw [h, neg_add_cancel]
  · rw [h, neg_add_cancel]
  · rw [h, add_neg_cancel]

/-- affine coordinates of the generator `P2` -/
def genXY : Fq2 × Fq2 := ((G.one : G2).x, (G.one : G2).y)

theorem affG2_gen : affG2 genXY = (G.one : G2) := rfl

theorem twPt_gen : twPt genXY = G2.toAff (G.one : G2) := rfl

theorem gen_on_twist : genXY.2 * genXY.2 = genXY.1 * genXY.1 * genXY.1 + b2 := G2.one_on_twist

/-- `π(P2)` as computed by the code -/
def genQ1 : G2 := (G2m.q_power_frobenius (G.one : G2) (Fq2.new pi1 0)).getD G.zero

theorem genQ1_eq : affG2 (frobTwist genXY) = genQ1 := by
  have h1 : G2m.q_power_frobenius (G.one : G2) (Fq2.new pi1 0) = some genQ1 := by decide +kernel
  have h2 := q_power_frobenius_eq genXY
  rw [affG2_gen, h1] at h2
  exact (Option.some.inj h2).symm

/-- the eigenvalue property `π(X) = [q]X`, checked on a Jacobian representative by the model's
    scalar multiplication and equality test -/
theorem eigen_of_test (X Y : G2) (hX : G2.Valid X) (hY : G2.Valid Y) (hr : r • G2.toAff X = 0)
    (ht : (X.mul (Fr.ofNat q)).eq Y = true) : G2.toAff Y = q • G2.toAff X := by
  have h := (G2.eq_iff _ _ (G2.mul_valid X hX _) hY).1 ht
  rw [G2.mul_correct X hX] at h
  rw [nsmul_eq_mod_nsmul q hr, ← h]
  rfl

theorem gen_eigen1 : twPt (frobTwist genXY) = q • twPt genXY := by
  rw [twPt_eq, twPt_eq, genQ1_eq, affG2_gen]
  have hv : G2.Valid genQ1 := by rw [← genQ1_eq]; exact affG2_valid _ (frobTwist_equation _ gen_on_twist)
  exact eigen_of_test _ _ G2.one_valid hv G2.one_order (by decide +kernel)

/-- `B ∈ G2 = E′(Fq2)[r] ∩ ker(π − q)` -/
def InG2 (B : (Jac.Wb b2).Point) : Prop := r • B = 0 ∧ frobHom B = q • B

theorem InG2.add {B B' : (Jac.Wb b2).Point} (h : InG2 B) (h' : InG2 B') : InG2 (B + B') :=
  ⟨by rw [nsmul_add, h.1, h'.1, add_zero], by rw [map_add, h.2, h'.2, nsmul_add]⟩

theorem InG2.nsmul {B : (Jac.Wb b2).Point} (h : InG2 B) (n : ℕ) : InG2 (n • B) :=
  ⟨by rw [nsmul_left_comm, h.1, nsmul_zero], by rw [map_nsmul, h.2, nsmul_left_comm]⟩

theorem InG2.neg {B : (Jac.Wb b2).Point} (h : InG2 B) : InG2 (-B) :=
  ⟨by rw [neg_nsmul, h.1, neg_zero], by rw [map_neg, h.2, neg_nsmul]⟩

theorem InG2.frob_frob {B : (Jac.Wb b2).Point} (h : InG2 B) : frobHom (frobHom B) = q • frobHom B := by
  rw [h.2, map_nsmul, h.2]

/-- the two Frobenius line steps of the Miller loop are non-degenerate on `G2 ∖ O` -/
theorem InG2.tail {B : (Jac.Wb b2).Point} (h : InG2 B) (h0 : B ≠ 0) :
    Consts.SM9_LOOP_N • B ≠ frobHom B ∧ Consts.SM9_LOOP_N • B ≠ -frobHom B ∧
    Consts.SM9_LOOP_N • B + frobHom B ≠ -frobHom (frobHom B) ∧
    Consts.SM9_LOOP_N • B + frobHom B ≠ frobHom (frobHom B) :=
  tail_of_eigen h.1 h0 h.2 h.frob_frob

/-- both halves by kernel evaluation of the model (`G2.one_order`, `gen_eigen1`) -/
theorem inG2_gen : InG2 (G2.toAff (G.one : G2)) := by
  rw [← twPt_gen]
  exact ⟨G2.one_order, by rw [frobHom_twPt _ gen_on_twist, gen_eigen1]⟩

theorem inG2_of_multiple {B : (Jac.Wb b2).Point} (k : ℕ) (hk : B = k • G2.toAff (G.one : G2)) : InG2 B :=
  hk ▸ inG2_gen.nsmul k

/-- **every multiple of the generator `P2` is a `q`-eigenvector of `π`** -/
theorem eigen_of_multiple (p : Fq2 × Fq2) (hp : p.2 * p.2 = p.1 * p.1 * p.1 + b2) (k : Nat)
    (hk : twPt p = k • twPt genXY) :
    r • twPt p = 0 ∧ twPt (frobTwist p) = q • twPt p ∧
    twPt (frobTwist (frobTwist p)) = q • twPt (frobTwist p) := by
  have hG := inG2_of_multiple k (twPt_gen ▸ hk)
  have e2 := hG.frob_frob
  rw [frobHom_twPt p hp, frobHom_twPt _ (frobTwist_equation p hp)] at e2
  exact ⟨hG.1, frobHom_twPt p hp ▸ hG.2, e2⟩

/-- the one fact about the twist not proved in this development: its `r`-torsion over `Fq2` is
    generated by `P2` (it follows from `#E′(Fq2) = r·(2q − r)` with `r ∤ 2q − r`) -/
def TorsionCyclic : Prop :=
  ∀ p : Fq2 × Fq2, p.2 * p.2 = p.1 * p.1 * p.1 + b2 → r • twPt p = 0 → ∃ k : Nat, twPt p = k • twPt genXY

theorem TorsionCyclic.inG2 (hcyc : TorsionCyclic) (p : Fq2 × Fq2) (hp : p.2 * p.2 = p.1 * p.1 * p.1 + b2)
    (hord : r • twPt p = 0) : InG2 (twPt p) := by
  obtain ⟨k, hk⟩ := hcyc p hp hord
  exact inG2_of_multiple k (twPt_gen ▸ hk)

theorem rate_exponent : (Consts.SM9_LOOP_N + q + q * q * q) % r = (q * q) % r := by decide +kernel

theorem InG2.rate_point {Q : (Jac.Wb b2).Point} (h : InG2 Q) :
    Consts.SM9_LOOP_N • Q + frobHom Q + -frobHom (frobHom Q) = -frobHom (frobHom (frobHom Q)) := by
  have H : (Consts.SM9_LOOP_N + q + q * q * q) • Q = (q * q) • Q := by
    rw [nsmul_eq_mod_nsmul _ h.1, rate_exponent, ← nsmul_eq_mod_nsmul _ h.1]
  rw [add_smul, add_smul] at H
  have e2 : frobHom (frobHom Q) = (q * q) • Q := by rw [h.2, map_nsmul, h.2, mul_smul]
  rw [e2, map_nsmul, h.2, ← mul_smul]
  generalize Consts.SM9_LOOP_N • Q = A at H ⊢
  generalize q • Q = B at H ⊢
  generalize (q * q * q) • Q = D at H ⊢
  rw [← H]
  abel

/-- the correction factor is one: `SM = Z^(−q²)`, `SN = Z^(−q³)`, `Z^r = 1` -/
theorem rate_correction (R1 R2 R3 Z SM SN : Fq12) (hZ : Z ^ r = 1)
    (H : R1 * R2 * SN = R3 * Z ^ Consts.SM9_LOOP_N * Z ^ q * SM)
    (hSM : SM * Z ^ (q * q) = 1) (hSN : SN * Z ^ (q * q * q) = 1) : R3 = R1 * R2 := by
  have hrel : Z ^ Consts.SM9_LOOP_N * Z ^ q * Z ^ (q * q * q) = Z ^ (q * q) := by
    rw [← pow_add, ← pow_add, pow_eq_pow_mod _ hZ, rate_exponent, ← pow_eq_pow_mod _ hZ]
  generalize Z ^ (q * q) = A at hSM hrel
  generalize Z ^ (q * q * q) = B at hSN hrel
  generalize Z ^ q = C at H hrel
  generalize Z ^ Consts.SM9_LOOP_N = D at H hrel
  calc R3 = R3 * (SM * A) := by rw [hSM, mul_one]
    _ = R3 * SM * (D * C * B) := by rw [hrel]; ring
    _ = (R3 * D * C * SM) * B := by ring
    _ = (R1 * R2 * SN) * B := by rw [H]
    _ = R1 * R2 * (SN * B) := by ring
    _ = R1 * R2 := by rw [hSN, mul_one]

end Miller
end Sm9
