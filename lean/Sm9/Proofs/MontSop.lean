import Sm9.Model.Mont
import Sm9.Proofs.MontBasic
import Sm9.Proofs.MontMul
import Sm9.Proofs.MontForm
/-!
# Limb level refines value level: `Fq::sum_of_products` (fp.rs, Longa's Algorithm 2)

The hand-unrolled rows are `Limb.macRow` over an operand padded with two zero limbs, so the row lemmas of
`MontMul.lean` apply.

Range argument (the Rust comment "one subtraction suffices"): no bound on `u4` is needed.
Whatever `u4` is, the value entering the final conditional subtraction is either `r < 2^256`
(`u4 = 0`) or an output of `add_carry`, which is always `< 2^256`; and `2^256 < 2q`.  The
length bound `≤ 4` is only used to show that the 6-limb accumulator never overflows
(`U + T·2^320 + 2^64·q < 6·2^320 ≤ 2^384`; any `T ≤ 2^64 - 2` would do).
-/

namespace Sm9

namespace U256

theorem digits_sum (a : Nat) (ha : a < W256) :
    getL (limbs a) 0 + B64 * getL (limbs a) 1 + B64 ^ 2 * getL (limbs a) 2
      + B64 ^ 3 * getL (limbs a) 3 = a := by
  have h := value_limbs a ha
  rw [limbs_eq] at h ⊢
  simp only [Limb.value] at h
  simp only [getL, List.getD_cons_zero, List.getD_cons_succ]
  linear_combination h

theorem add_carry_lt (fuel a m : Nat) (h : a < m) :
    add_carry (fuel + 1) a m = some (Big.sub_with_borrow W256 a m).1 := by
  rw [add_carry]
  simp only [Big.sub_with_borrow, h, decide_true, if_true]

theorem add_carry_ge (fuel a m : Nat) (h : ¬ a < m) :
    add_carry (fuel + 1) a m = add_carry fuel (Big.sub_with_borrow W256 a m).1 m := by
  rw [add_carry]
  simp only [Big.sub_with_borrow, h, decide_false]
  simp

/-- at most two subtractions: `c ∈ {1, 2}` -/
theorem add_carry_spec (x m : Nat) (hm : m < W256) (hm2 : W256 < 2 * m) (hx : x < W256) :
    ∃ y c, add_carry 8 x m = some y ∧ y < W256 ∧ y + c * m = x + W256 := by
  by_cases h : x < m
  · rw [show (8 : Nat) = 7 + 1 from rfl, add_carry_lt _ _ _ h, Big.sub_with_borrow_of_lt hm.le h]
    exact ⟨_, 1, rfl, by omega, by omega⟩
  · rw [show (8 : Nat) = 6 + 1 + 1 from rfl, add_carry_ge _ _ _ h,
      Big.sub_with_borrow_of_le (by omega) (by omega), add_carry_lt _ _ _ (by omega),
      Big.sub_with_borrow_of_lt hm.le (by omega)]
    exact ⟨_, 2, rfl, by omega, by omega⟩

end U256

namespace FqL
open Limb U256

/-- `adc x 0 c` is `mac x d 0 c`, and both `getL` and `macRow` read a missing limb as 0 -/
theorem sopAcc_eq (j : Nat) (as bs u : List Nat) :
    sopAcc j as bs u = (List.zip as bs).foldl (fun t ab =>
      (macRow B64 t (getL (limbs ab.1) j) (limbs ab.2 ++ [0, 0]) 0).1) (u ++ [0]) := by
  unfold sopAcc
  congr
  funext t ab
  rcases t with _ | ⟨t0, _ | ⟨t1, _ | ⟨t2, _ | ⟨t3, _ | ⟨t4, _ | ⟨t5, r⟩⟩⟩⟩⟩⟩ <;> rfl

theorem sopRed_eq (t : List Nat) :
    sopRed t
      = (macRow B64 t ((getL t 0 * P.inv) % B64) (limbs P.modulus ++ [0, 0]) 0).1.tail := by
  rcases t with _ | ⟨t0, _ | ⟨t1, _ | ⟨t2, _ | ⟨t3, _ | ⟨t4, _ | ⟨t5, r⟩⟩⟩⟩⟩⟩ <;> rfl

/-- the accumulator between rows: exactly `n` limbs, each below 2⁶⁴, so its `value` is below `B64 ^ n` -/
def Good (n : Nat) (t : List Nat) : Prop := t.length = n ∧ ∀ x ∈ t, x < B64

theorem good_macRow (acc : List Nat) (d : Nat) (e : List Nat) :
    Good e.length (macRow B64 acc d e 0).1 :=
  ⟨macRow_length .., macRow_lt B64 B64_pos _ _ _ _⟩

theorem value_pad (b : Nat) (hb : b < W256) : value B64 (limbs b ++ [0, 0]) = b := by
  rw [value_append, value_limbs b hb]; simp [value]

theorem length_limbs_pad (b : Nat) : (limbs b ++ [0, 0]).length = 6 := rfl

def colSum (j : Nat) (l : List (Nat × Nat)) : Nat :=
  (l.map (fun ab => getL (limbs ab.1) j * ab.2)).sum

theorem colSum_cons (j : Nat) (ab : Nat × Nat) (l : List (Nat × Nat)) :
    colSum j (ab :: l) = getL (limbs ab.1) j * ab.2 + colSum j l := by
  simp [colSum]

theorem accFold_spec (j : Nat) (l : List (Nat × Nat)) (t : List Nat) (ht : Good 6 t)
    (hl : ∀ ab ∈ l, ab.2 < W256) (hfit : value B64 t + colSum j l < B64 ^ 6) :
    Good 6 (l.foldl (fun t ab =>
        (macRow B64 t (getL (limbs ab.1) j) (limbs ab.2 ++ [0, 0]) 0).1) t) ∧
      value B64 (l.foldl (fun t ab =>
        (macRow B64 t (getL (limbs ab.1) j) (limbs ab.2 ++ [0, 0]) 0).1) t)
        = value B64 t + colSum j l := by
  induction l generalizing t with
  | nil => simp [colSum, ht]
  | cons ab l ih =>
    rw [List.forall_mem_cons] at hl
    rw [colSum_cons, ← add_assoc] at hfit ⊢
    have hv := macRow_value_of_lt B64 t (getL (limbs ab.1) j) (limbs ab.2 ++ [0, 0])
      (ht.1.trans (length_limbs_pad _).symm)
      (by rw [value_pad _ hl.1]; exact lt_of_le_of_lt (Nat.le_add_right _ _) hfit)
    rw [value_pad _ hl.1] at hv
    rw [List.foldl_cons, ← hv]
    exact ih _ (good_macRow ..) hl.2 (by rw [hv]; exact hfit)

theorem colSum_le (j : Nat) (l : List (Nat × Nat)) (hl : ∀ ab ∈ l, ab.2 < W256) :
    colSum j l ≤ l.length * B64 ^ 5 := by
  induction l with
  | nil => simp [colSum]
  | cons ab l ih =>
    rw [List.forall_mem_cons] at hl
    rw [colSum_cons, List.length_cons, add_comm, add_one_mul, pow_succ' B64 4, B64_pow4]
    exact Nat.add_le_add (ih hl.2) (Nat.mul_le_mul (getL_limbs_lt ab.1 j).le hl.1.le)

theorem colSum_total (l : List (Nat × Nat)) (hl : ∀ ab ∈ l, ab.1 < W256) :
    colSum 0 l + B64 * colSum 1 l + B64 ^ 2 * colSum 2 l + B64 ^ 3 * colSum 3 l
      = (l.map (fun ab => ab.1 * ab.2)).sum := by
  induction l with
  | nil => simp [colSum]
  | cons ab l ih =>
    rw [List.forall_mem_cons] at hl
    simp only [colSum_cons, List.map_cons, List.sum_cons]
    linear_combination ih hl.2 + ab.2 * digits_sum ab.1 hl.1

theorem montRow6_spec (m inv t0 : Nat) (ts : List Nat) (hm : m < W256)
    (hinv : (m * inv) % B64 = B64 - 1) (ht : (t0 :: ts).length = 6)
    (hfit : value B64 (t0 :: ts) + B64 * m < B64 ^ 6) :
    Good 5 (macRow B64 (t0 :: ts) (t0 * inv % B64) (limbs m ++ [0, 0]) 0).1.tail ∧
      B64 * value B64 (macRow B64 (t0 :: ts) (t0 * inv % B64) (limbs m ++ [0, 0]) 0).1.tail
        = value B64 (t0 :: ts) + (t0 * inv % B64) * m := by
  have hk : t0 * inv % B64 < B64 := Nat.mod_lt _ B64_pos
  have hg := good_macRow (t0 :: ts) (t0 * inv % B64) (limbs m ++ [0, 0])
  have hv := macRow_value_of_lt B64 (t0 :: ts) (t0 * inv % B64) (limbs m ++ [0, 0])
    (ht.trans (length_limbs_pad m).symm)
    (by rw [value_pad _ hm]
        exact lt_of_le_of_lt (Nat.add_le_add_left (Nat.mul_le_mul_right _ hk.le) _) hfit)
  have hmont := macRow_mont B64 inv (m % B64) t0 ts (digits B64 3 (m / B64) ++ [0, 0])
    B64_pos (by rw [Nat.mod_mul_mod]; exact hinv)
  rw [value_pad _ hm] at hv
  exact ⟨⟨by rw [List.length_tail, hg.1]; rfl, fun x hx => hg.2 x (List.mem_of_mem_tail hx)⟩,
    hmont.symm.trans hv⟩

theorem P_modulus : P.modulus = Consts.FQ := rfl

theorem FQ_lt : Consts.FQ < W256 := paramsQ_ok.lt

theorem sopRed_spec (t : List Nat) (ht : Good 6 t)
    (hfit : value B64 t + B64 * Consts.FQ < B64 ^ 6) :
    Good 5 (sopRed t) ∧
      ∃ k, B64 * value B64 (sopRed t) = value B64 t + k * Consts.FQ := by
  obtain ⟨t0, ts, rfl⟩ := List.exists_cons_of_length_eq_add_one ht.1
  obtain ⟨hg, hv⟩ := montRow6_spec Consts.FQ Consts.FQ_INV t0 ts FQ_lt paramsQ_ok.inv ht.1 hfit
  exact ⟨sopRed_eq _ ▸ hg, _, sopRed_eq _ ▸ hv⟩

theorem good_append_zero (u : List Nat) (hu : Good 5 u) : Good 6 (u ++ [0]) := by
  refine ⟨by simp [hu.1], ?_⟩
  simp only [List.forall_mem_append, List.forall_mem_singleton]
  exact ⟨hu.2, B64_pos⟩

theorem value_append_zero (u : List Nat) : value B64 (u ++ [0]) = value B64 u := by
  rw [value_append]; simp [value]

/-- one round of Algorithm 2: `2^64 · U_j = U_{j-1} + Σ_i digit_j(a_i)·b_i + k_j·q` -/
theorem round_spec (j : Nat) (as bs u : List Nat) (hu : Good 5 u)
    (hlen : (List.zip as bs).length ≤ 4) (hb : ∀ ab ∈ List.zip as bs, ab.2 < W256) :
    Good 5 (sopRed (sopAcc j as bs u)) ∧
      ∃ k, B64 * value B64 (sopRed (sopAcc j as bs u))
        = value B64 u + colSum j (List.zip as bs) + k * Consts.FQ := by
  rw [sopAcc_eq]
  have hv := value_lt B64 u hu.2
  rw [hu.1] at hv
  have hS := (colSum_le j _ hb).trans (Nat.mul_le_mul_right _ hlen)
  have hq : B64 * Consts.FQ < B64 ^ 5 := by
    rw [pow_succ' B64 4, B64_pow4]; exact Nat.mul_lt_mul_of_pos_left FQ_lt B64_pos
  have h6 : 6 * B64 ^ 5 ≤ B64 ^ 6 := by
    rw [pow_succ' B64 5]; exact Nat.mul_le_mul_right _ (by rw [B64_eq]; omega)
  obtain ⟨g, v⟩ := accFold_spec j (List.zip as bs) (u ++ [0]) (good_append_zero u hu) hb
    (by rw [value_append_zero]; omega)
  rw [value_append_zero] at v
  obtain ⟨g2, k, hk⟩ := sopRed_spec _ g (by rw [v]; omega)
  exact ⟨g2, k, by rw [hk, v]⟩

theorem carryFold_spec (m : Nat) (hm : m < W256) (hm2 : W256 < 2 * m) (n x : Nat) (hx : x < W256) :
    ∃ y, (List.range n).foldl (fun (r : Option Nat) _ =>
        r.bind (fun r => U256.add_carry 8 r m)) (some x) = some y ∧ y < W256 ∧
      y ≡ x + n * W256 [MOD m] := by
  induction n with
  | zero => exact ⟨x, rfl, hx, by simp [Nat.ModEq]⟩
  | succ n ih =>
    obtain ⟨y, hy, hyW, hym⟩ := ih
    obtain ⟨y2, c, e, hy2, hc⟩ := add_carry_spec y m hm hm2 hyW
    refine ⟨y2, ?_, hy2, ?_⟩
    · rw [List.range_succ, List.foldl_append, hy]
      simp only [List.foldl_cons, List.foldl_nil, Option.bind_some]
      exact e
    · have h1 : y2 ≡ y2 + c * m [MOD m] := by
        simp [Nat.ModEq]
      rw [hc] at h1
      have h2 : y + W256 ≡ x + n * W256 + W256 [MOD m] := hym.add_right _
      have e2 : x + (n + 1) * W256 = x + n * W256 + W256 := by ring
      rw [e2]
      exact h1.trans h2

theorem sop_unfold (as bs : List Nat) :
    sum_of_products as bs =
      ((List.range (getL (sopRed (sopAcc 3 as bs (sopRed (sopAcc 2 as bs (sopRed (sopAcc 1 as bs
            (sopRed (sopAcc 0 as bs [0, 0, 0, 0, 0])))))))) 4)).foldl
          (fun (r : Option Nat) _ => r.bind (fun r => U256.add_carry 8 r P.modulus))
          (some (ofLimbs ((sopRed (sopAcc 3 as bs (sopRed (sopAcc 2 as bs (sopRed (sopAcc 1 as bs
            (sopRed (sopAcc 0 as bs [0, 0, 0, 0, 0])))))))).take 4)))).map
        (fun r => U256.subtract_modulus_with_carry r P.modulus false) := rfl

theorem good5_zero : Good 5 [0, 0, 0, 0, 0] := ⟨rfl, by simp [B64_pos]⟩

/-- zip form, operands only required to be 256-bit; `some`: the `add_carry` fuel is not exhausted -/
theorem sum_of_products_refines_gen (as bs : List Nat) (hlen : (List.zip as bs).length ≤ 4)
    (ha : ∀ ab ∈ List.zip as bs, ab.1 < W256) (hb : ∀ ab ∈ List.zip as bs, ab.2 < W256) :
    ∃ res, sum_of_products as bs = some res ∧ res < Consts.FQ ∧
      (res * W256) % Consts.FQ
        = ((List.zip as bs).map (fun ab => ab.1 * ab.2)).sum % Consts.FQ := by
  rw [sop_unfold]
  obtain ⟨g1, k1, h1⟩ := round_spec 0 as bs _ good5_zero hlen hb
  obtain ⟨g2, k2, h2⟩ := round_spec 1 as bs _ g1 hlen hb
  obtain ⟨g3, k3, h3⟩ := round_spec 2 as bs _ g2 hlen hb
  obtain ⟨g4, k4, h4⟩ := round_spec 3 as bs _ g3 hlen hb
  have htot := colSum_total (List.zip as bs) ha
  generalize sopRed (sopAcc 0 as bs [0, 0, 0, 0, 0]) = u1 at *
  generalize sopRed (sopAcc 1 as bs u1) = u2 at *
  generalize sopRed (sopAcc 2 as bs u2) = u3 at *
  generalize sopRed (sopAcc 3 as bs u3) = u4 at *
  have hz : value B64 [0, 0, 0, 0, 0] = 0 := by simp [value]
  rw [hz] at h1
  -- 2^256 · U_4 = Σ a_i b_i + K q
  have hU : W256 * value B64 u4 = ((List.zip as bs).map (fun ab => ab.1 * ab.2)).sum
      + (k1 + B64 * k2 + B64 ^ 2 * k3 + B64 ^ 3 * k4) * Consts.FQ := by
    rw [← htot, ← B64_pow4]
    linear_combination h1 + B64 * h2 + B64 ^ 2 * h3 + B64 ^ 3 * h4
  -- split U_4 = r + 2^256 · u4
  have hsplit := value_take_drop B64 4 u4 (by rw [g4.1]; omega)
  have hdrop : value B64 (u4.drop 4) = getL u4 4 := by
    obtain ⟨hl, -⟩ := g4
    rcases u4 with _ | ⟨x0, _ | ⟨x1, _ | ⟨x2, _ | ⟨x3, _ | ⟨x4, _ | ⟨x5, r⟩⟩⟩⟩⟩⟩ <;> simp at hl
    simp [value, getL]
  rw [hdrop, B64_pow4] at hsplit
  have hr : ofLimbs (u4.take 4) < W256 := by
    unfold ofLimbs
    have := value_lt B64 (u4.take 4) (fun x hx => g4.2 x (List.mem_of_mem_take hx))
    rw [List.length_take, g4.1] at this
    rw [← B64_pow4]; exact this
  have hm : P.modulus < W256 := paramsQ_ok.lt
  have hm2 : W256 < 2 * P.modulus := paramsQ_ok.gt
  obtain ⟨y, hy, hyW, hym⟩ := carryFold_spec P.modulus hm hm2 (getL u4 4) _ hr
  rw [hy]
  refine ⟨_, rfl, ?_⟩
  beta_reduce
  rw [subtract_modulus_with_carry_eq y P.modulus false y hm (by omega) rfl, P_modulus] at *
  have e : y ≡ value B64 u4 [MOD Consts.FQ] :=
    hym.trans (by rw [ofLimbs, ← hsplit, mul_comm (getL u4 4)])
  refine ⟨Nat.mod_lt _ (by omega), ?_⟩
  rw [Nat.mod_mul_mod, (e.mul_right W256 : _ % _ = _ % _), mul_comm, hU,
    Nat.add_mul_mod_self_right]

theorem sum_of_products_refines (as bs : List Nat) (hlen : as.length = bs.length)
    (h4 : as.length ≤ 4) (ha : ∀ a ∈ as, a < Consts.FQ) (hb : ∀ b ∈ bs, b < Consts.FQ) :
    ∃ res, sum_of_products as bs = some res ∧ res < Consts.FQ ∧
      (res * W256) % Consts.FQ = ((List.zipWith (· * ·) as bs).sum) % Consts.FQ := by
  have hq := FQ_lt
  obtain ⟨res, h1, h2, h3⟩ := sum_of_products_refines_gen as bs
    (by rw [List.length_zip]; omega)
    (fun ab hab => lt_trans (ha _ (List.of_mem_zip (a := ab.1) (b := ab.2) hab).1) hq)
    (fun ab hab => lt_trans (hb _ (List.of_mem_zip (a := ab.1) (b := ab.2) hab).2) hq)
  refine ⟨res, h1, h2, ?_⟩
  rw [h3, List.map_zip_eq_zipWith]
  rfl

theorem sum_of_products_refines_2 (a0 a1 b0 b1 : Nat) (ha0 : a0 < Consts.FQ) (ha1 : a1 < Consts.FQ)
    (hb0 : b0 < Consts.FQ) (hb1 : b1 < Consts.FQ) :
    ∃ res, sum_of_products [a0, a1] [b0, b1] = some res ∧ res < Consts.FQ ∧
      (res * W256) % Consts.FQ = (a0 * b0 + a1 * b1) % Consts.FQ := by
  obtain ⟨res, h1, h2, h3⟩ := sum_of_products_refines [a0, a1] [b0, b1] rfl (by simp)
    (by simpa using ⟨ha0, ha1⟩) (by simpa using ⟨hb0, hb1⟩)
  refine ⟨res, h1, h2, ?_⟩
  rw [h3]; simp

theorem sum_of_products_refines_4 (a0 a1 a2 a3 b0 b1 b2 b3 : Nat)
    (ha0 : a0 < Consts.FQ) (ha1 : a1 < Consts.FQ) (ha2 : a2 < Consts.FQ) (ha3 : a3 < Consts.FQ)
    (hb0 : b0 < Consts.FQ) (hb1 : b1 < Consts.FQ) (hb2 : b2 < Consts.FQ) (hb3 : b3 < Consts.FQ) :
    ∃ res, sum_of_products [a0, a1, a2, a3] [b0, b1, b2, b3] = some res ∧ res < Consts.FQ ∧
      (res * W256) % Consts.FQ = (a0 * b0 + a1 * b1 + a2 * b2 + a3 * b3) % Consts.FQ := by
  obtain ⟨res, h1, h2, h3⟩ := sum_of_products_refines [a0, a1, a2, a3] [b0, b1, b2, b3] rfl
    (by simp)
    (by simpa using ⟨ha0, ha1, ha2, ha3⟩) (by simpa using ⟨hb0, hb1, hb2, hb3⟩)
  refine ⟨res, h1, h2, ?_⟩
  rw [h3]; simp [Nat.add_assoc]

/-- the interleaved and the separate multiply-then-add code paths agree -/
theorem sum_of_products_eq_mul_add (a0 a1 b0 b1 : Nat) (ha0 : a0 < Consts.FQ)
    (ha1 : a1 < Consts.FQ) (hb0 : b0 < Consts.FQ) (hb1 : b1 < Consts.FQ) :
    sum_of_products [a0, a1] [b0, b1] = some (Fp.add P (Fp.mul P a0 b0) (Fp.mul P a1 b1)) := by
  obtain ⟨res, h1, h2, h3⟩ := sum_of_products_refines_2 a0 a1 b0 b1 ha0 ha1 hb0 hb1
  obtain ⟨x1, x2⟩ := Fp.mul_refines_q a0 b0 ha0 hb0
  obtain ⟨y1, y2⟩ := Fp.mul_refines_q a1 b1 ha1 hb1
  rw [h1, show P = paramsQ from rfl,
    show Fp.add paramsQ _ _ = _ from U256.add_eq _ _ Consts.FQ FQ_lt x1 y1]
  congr 1
  apply Fp.eq_of_mul_W256 paramsQ_ok h2 (Nat.mod_lt _ (Nat.zero_lt_of_lt ha0))
  show res * W256 % Consts.FQ = _ % Consts.FQ * W256 % Consts.FQ
  rw [h3, Nat.mod_mul_mod, Nat.add_mul, Nat.add_mod (_ * W256), x2, y2, ← Nat.add_mod]

example : ∃ res, sum_of_products [2, 3] [5, 7] = some res ∧ res < Consts.FQ ∧
    (res * W256) % Consts.FQ = 31 % Consts.FQ :=
  sum_of_products_refines_2 2 3 5 7 (by decide +kernel) (by decide +kernel) (by decide +kernel)
    (by decide +kernel)

end FqL
end Sm9
