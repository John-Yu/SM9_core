import Sm9.Proofs.ChainIndepDefs
/-!
In Mathlib's affine coordinate ring `F[W]`, with `I(A)` the ideal of a point (`ptIdeal`; `⊤` for `O`),
`XYIdeal_mul_XYIdeal` reads `(v_{A+B})·I(A)·I(B) = (l_{A,B})·I(A+B)` and `XYIdeal_neg_mul` reads `I(−A)·I(A) = (v_A)`.
So the product `f` of lines a Miller loop has accumulated at `T = mQ` satisfies `(f)·I(T) = I(Q)^m·(V)`, `V` a product
of verticals (`Inv`), whatever the chain; two chains reaching the same `m` give generators of the same ideal after
multiplying by `I(−T)`, and the units of `F[W]` are the non-zero constants (degree of the norm).
-/
namespace Sm9
namespace Miller
open WeierstrassCurve Polynomial
open scoped Polynomial.Bivariate
open WeierstrassCurve.Affine (CoordinateRing)
open WeierstrassCurve.Affine.CoordinateRing (XClass XYIdeal)

variable {F : Type} [Field F] [DecidableEq F]

theorem coordinateRing_unit_const (W : Affine F) (u : W.CoordinateRing) (hu : IsUnit u) :
    ∃ c : F, c ≠ 0 ∧ u = algebraMap F W.CoordinateRing c := by
  obtain ⟨p, q, rfl⟩ := CoordinateRing.exists_smul_basis_eq u
  have hN : IsUnit (Algebra.norm F[X] (p • (1 : W.CoordinateRing) + q • CoordinateRing.mk W Y)) :=
    hu.map (Algebra.norm F[X])
  have hdeg := Polynomial.degree_eq_zero_of_isUnit hN
  rw [CoordinateRing.degree_norm_smul_basis] at hdeg
  have hq : q = 0 := by
    by_contra hq
    have h3 : 2 • q.degree + 3 ≤ (0 : WithBot ℕ) := hdeg ▸ le_max_right _ _
    rw [Polynomial.degree_eq_natDegree hq] at h3
    have : 2 * q.natDegree + 3 ≤ 0 := by
      rw [nsmul_eq_mul] at h3
      exact_mod_cast h3
    omega
  subst hq
  have hp0 : p ≠ 0 := by
    rintro rfl
    simp at hdeg
  have hp : p.degree = 0 := by
    have h2 : 2 • p.degree ≤ (0 : WithBot ℕ) := hdeg ▸ le_max_left _ _
    rw [Polynomial.degree_eq_natDegree hp0] at h2 ⊢
    have : 2 * p.natDegree ≤ 0 := by
      rw [nsmul_eq_mul] at h2
      exact_mod_cast h2
    have : p.natDegree = 0 := by omega
    rw [this]; rfl
  obtain ⟨c, hc⟩ : ∃ c, p = C c := ⟨_, Polynomial.eq_C_of_degree_eq_zero hp⟩
  refine ⟨c, ?_, ?_⟩
  · rintro rfl
    apply hp0
    rw [hc, C_0]
  · rw [zero_smul, add_zero, hc, IsScalarTower.algebraMap_apply F F[X] W.CoordinateRing,
      Algebra.algebraMap_eq_smul_one]
    rfl

noncomputable def ptIdeal (W : Affine F) : W.Point → Ideal W.CoordinateRing
  | .zero => ⊤
  | .some x y _ => XYIdeal W x (C y)

omit [DecidableEq F] in
theorem ptIdeal_some (W : Affine F) {x y : F} (h : W.Nonsingular x y) :
    ptIdeal W (.some x y h) = XYIdeal W x (C y) := rfl

theorem ptIdeal_add (W : Affine F) (A B : W.Point) (hA : A ≠ 0) (hB : B ≠ 0) (hAB : A + B ≠ 0) :
    ∃ x y h, A + B = .some x y h ∧
      Ideal.span {XClass W x} * (ptIdeal W A * ptIdeal W B)
        = Ideal.span {lineVal W (lineR W) A B} * ptIdeal W (A + B) := by
  obtain ⟨x₁, y₁, h₁, rfl⟩ := exists_some_of_ne_zero W hA
  obtain ⟨x₂, y₂, h₂, rfl⟩ := exists_some_of_ne_zero W hB
  by_cases hxy : x₁ = x₂ ∧ y₁ = W.negY x₂ y₂
  · exact absurd (Affine.Point.add_of_Y_eq hxy.1 hxy.2) hAB
  · rw [Affine.Point.add_some hxy]
    exact ⟨_, _, _, rfl, CoordinateRing.XYIdeal_mul_XYIdeal h₁.left h₂.left hxy⟩

omit [DecidableEq F] in
theorem ptIdeal_neg_mul (W : Affine F) {x y : F} (h : W.Nonsingular x y) :
    ptIdeal W (-.some x y h) * ptIdeal W (.some x y h) = Ideal.span {XClass W x} :=
  CoordinateRing.XYIdeal_neg_mul h

omit [DecidableEq F] in
theorem VertProd.mul' {W : Affine F} {S : Set F} {a b : W.CoordinateRing}
    (ha : VertProd W S a) (hb : VertProd W S b) : VertProd W S (a * b) := by
  induction hb with
  | one => rwa [mul_one]
  | mul _ hx ih => rw [← mul_assoc]; exact VertProd.mul ih hx

omit [DecidableEq F] in
theorem VertProd.single {W : Affine F} {S : Set F} {x : F} (hx : x ∈ S) :
    VertProd W S (XClass W x) := by
  simpa using VertProd.mul (VertProd.one (W := W) (S := S)) hx

theorem mem_multX (W : Affine F) (Q : W.Point) (n k : ℕ) (hk : 0 < k) (hkn : k < n) {x y : F}
    {h : W.Nonsingular x y} (e : k • Q = .some x y h) : x ∈ multX W Q n :=
  ⟨y, h, k, hk, hkn, e⟩

theorem step_line (W : Affine F) (T B : W.Point) (g V : W.CoordinateRing) (J : Ideal W.CoordinateRing)
    (hT : T ≠ 0) (hB : B ≠ 0) (hTB : T + B ≠ 0)
    (hI : Ideal.span {g} * ptIdeal W T = J * Ideal.span {V}) :
    ∃ x y h, T + B = .some x y h ∧
      Ideal.span {g * lineVal W (lineR W) T B} * ptIdeal W (T + B)
        = J * ptIdeal W B * Ideal.span {V * XClass W x} := by
  obtain ⟨x, y, h, e, hxy⟩ := ptIdeal_add W T B hT hB hTB
  refine ⟨x, y, h, e, ?_⟩
  rw [← Ideal.span_singleton_mul_span_singleton, ← Ideal.span_singleton_mul_span_singleton,
    mul_assoc (Ideal.span {g}), ← hxy]
  calc Ideal.span {g} * (Ideal.span {XClass W x} * (ptIdeal W T * ptIdeal W B))
      = (Ideal.span {g} * ptIdeal W T) * ptIdeal W B * Ideal.span {XClass W x} := by ring
    _ = J * ptIdeal W B * (Ideal.span {V} * Ideal.span {XClass W x}) := by rw [hI]; ring

def Inv (W : Affine F) (Q : W.Point) (n m : ℕ) (st : W.Point × W.CoordinateRing) : Prop :=
  0 < m ∧ m < n ∧ st.1 = m • Q ∧ ∃ V, VertProd W (multX W Q n) V ∧
    Ideal.span {st.2} * ptIdeal W st.1 = ptIdeal W Q ^ m * Ideal.span {V}

theorem inv_start (W : Affine F) (Q : W.Point) (n : ℕ) (h1 : 1 < n) : Inv W Q n 1 (Q, 1) :=
  ⟨Nat.one_pos, h1, (one_smul _ _).symm, 1, VertProd.one, by simp⟩

section steps
variable (W : Affine F) (Q : W.Point) (n : ℕ) (hn : ∀ k, 0 < k → k < n → k • Q ≠ 0)
include hn

theorem step_add (T B : W.Point) (g V : W.CoordinateRing) (J : Ideal W.CoordinateRing) (k j : ℕ)
    (hk : 0 < k) (hkn : k < n) (hT : T = k • Q) (hB : B ≠ 0) (hj : 0 < j) (hjn : j < n)
    (hTB : T + B = j • Q)
    (hI : Ideal.span {g} * ptIdeal W T = J * Ideal.span {V}) :
    ∃ x ∈ multX W Q n, Ideal.span {g * lineVal W (lineR W) T B} * ptIdeal W (T + B)
      = J * ptIdeal W B * Ideal.span {V * XClass W x} := by
  obtain ⟨x, y, h, e, hS⟩ := step_line W T B g V J (hT ▸ hn k hk hkn) hB (hTB ▸ hn j hj hjn) hI
  exact ⟨x, mem_multX W Q n j hj hjn (hTB ▸ e), hS⟩

theorem inv_double (m : ℕ) (st : W.Point × W.CoordinateRing) (h : Inv W Q n m st) (h2 : 2 * m < n) :
    Inv W Q n (2 * m) (st.1 + st.1, st.2 * st.2 * lineVal W (lineR W) st.1 st.1) := by
  obtain ⟨hm, hmn, hT, V, hV, hI⟩ := h
  have hT0 : st.1 ≠ 0 := hT ▸ hn m hm hmn
  have hTT : st.1 + st.1 = (2 * m) • Q := by rw [hT, mul_smul, two_smul]
  obtain ⟨x, hx, hS⟩ := step_add W Q n hn st.1 st.1 st.2 V _ m (2 * m) hm hmn hT hT0 (by omega) h2
    hTT hI
  refine ⟨by omega, h2, hTT, V * (V * XClass W x), hV.mul' (hV.mul' (VertProd.single hx)), ?_⟩
  calc Ideal.span {st.2 * st.2 * lineVal W (lineR W) st.1 st.1} * ptIdeal W (st.1 + st.1)
      = Ideal.span {st.2} * (Ideal.span {st.2 * lineVal W (lineR W) st.1 st.1}
          * ptIdeal W (st.1 + st.1)) := by
        rw [mul_assoc st.2, ← Ideal.span_singleton_mul_span_singleton, mul_assoc]
    _ = Ideal.span {st.2} * (ptIdeal W Q ^ m * ptIdeal W st.1 * Ideal.span {V * XClass W x}) := by
        rw [hS]
    _ = ptIdeal W Q ^ m * (Ideal.span {st.2} * ptIdeal W st.1) * Ideal.span {V * XClass W x} := by
        ring
    _ = ptIdeal W Q ^ (2 * m) * (Ideal.span {V} * Ideal.span {V * XClass W x}) := by
        rw [hI]; ring
    _ = _ := by rw [Ideal.span_singleton_mul_span_singleton]

theorem inv_addQ (k : ℕ) (st : W.Point × W.CoordinateRing) (h : Inv W Q n k st) (hk1 : k + 1 < n) :
    Inv W Q n (k + 1) (st.1 + Q, st.2 * lineVal W (lineR W) st.1 Q) := by
  obtain ⟨hk, hkn, hT, V, hV, hI⟩ := h
  have hQ0 : Q ≠ 0 := by
    have := hn 1 Nat.one_pos (by omega)
    rwa [one_smul] at this
  have hTQ : st.1 + Q = (k + 1) • Q := by rw [hT, add_smul, one_smul]
  obtain ⟨x, hx, hS⟩ := step_add W Q n hn st.1 Q st.2 V _ k (k + 1) hk hkn hT hQ0 (by omega) hk1
    hTQ hI
  refine ⟨by omega, hk1, hTQ, V * XClass W x, VertProd.mul hV hx, ?_⟩
  simp only
  rw [hS, pow_succ]

theorem inv_subQ (k : ℕ) (st : W.Point × W.CoordinateRing) (h : Inv W Q n k st) (hk2 : 2 ≤ k) :
    Inv W Q n (k - 1) (st.1 + -Q, st.2 * lineVal W (lineR W) st.1 (-Q)) := by
  obtain ⟨hk, hkn, hT, V, hV, hI⟩ := h
  have hQ0 : Q ≠ 0 := by
    have := hn 1 Nat.one_pos (by omega)
    rwa [one_smul] at this
  obtain ⟨xQ, yQ, hQ, eQ⟩ := exists_some_of_ne_zero W hQ0
  have hxQ : xQ ∈ multX W Q n := mem_multX W Q n 1 Nat.one_pos (by omega) ((one_smul _ _).trans eQ)
  have hTQ : st.1 + -Q = (k - 1) • Q := by
    rw [hT, ← add_sub_one_nsmul (by omega : k ≠ 0) Q, add_neg_cancel_right]
  obtain ⟨x, hx, hS⟩ := step_add W Q n hn st.1 (-Q) st.2 V _ k (k - 1) hk hkn hT
    (neg_ne_zero.mpr hQ0) (by omega) (by omega) hTQ hI
  refine ⟨by omega, by omega, hTQ, V * XClass W x * XClass W xQ, VertProd.mul (VertProd.mul hV hx) hxQ,
    ?_⟩
  have hneg : ptIdeal W (-Q) * ptIdeal W Q = Ideal.span {XClass W xQ} := by
    rw [eQ]; exact ptIdeal_neg_mul W hQ
  have e : k = (k - 1) + 1 := by omega
  calc Ideal.span {st.2 * lineVal W (lineR W) st.1 (-Q)} * ptIdeal W (st.1 + -Q)
      = ptIdeal W Q ^ k * ptIdeal W (-Q) * Ideal.span {V * XClass W x} := hS
    _ = ptIdeal W Q ^ (k - 1) * (ptIdeal W (-Q) * ptIdeal W Q) * Ideal.span {V * XClass W x} := by
        conv_lhs => rw [e, pow_succ]
        ring
    _ = ptIdeal W Q ^ (k - 1) * (Ideal.span {V * XClass W x} * Ideal.span {XClass W xQ}) := by
        rw [hneg]; ring
    _ = _ := by rw [Ideal.span_singleton_mul_span_singleton]

theorem inv_specStep (N i m : ℕ) (st : W.Point × W.CoordinateRing) (h : Inv W Q n m st)
    (h2 : 2 * m + 1 < n) :
    Inv W Q n (2 * m + (if bit N i then 1 else 0)) (specStep W (lineR W) Q N st i) := by
  have hd := inv_double W Q n hn m st h (by omega)
  unfold specStep
  split
  · exact inv_addQ W Q n hn (2 * m) _ hd h2
  · exact hd

theorem inv_specStepNaf (d m : ℕ) (st : W.Point × W.CoordinateRing) (h : Inv W Q n m st)
    (h2 : 2 * m + 1 < n) :
    Inv W Q n (nafNext m d) (specStepNaf W (lineR W) Q st d) := by
  have hd := inv_double W Q n hn m st h (by omega)
  have hm : 0 < m := h.1
  unfold specStepNaf nafNext
  split
  · exact inv_addQ W Q n hn (2 * m) _ hd h2
  · split
    · exact inv_subQ W Q n hn (2 * m) _ hd (by omega)
    · exact hd

end steps

theorem foldl_flag_false {α : Type} (g : ℕ → α → ℕ) (p : ℕ → Bool) (l : List α) (a : ℕ) :
    (l.foldl (fun (s : ℕ × Bool) i => (g s.1 i, s.2 && p s.1)) (a, false)).2 = false := by
  induction l generalizing a with
  | nil => rfl
  | cons i l ih => simpa [List.foldl_cons] using ih _

theorem foldl_flag_nil_of_not {α : Type} (g : ℕ → α → ℕ) (n : ℕ) (l : List α) (a : ℕ)
    (ha : ¬ 2 * a + 1 < n)
    (hok : (l.foldl (fun (s : ℕ × Bool) i => (g s.1 i, s.2 && decide (2 * s.1 + 1 < n)))
      (a, true)).2 = true) : l = [] := by
  cases l with
  | nil => rfl
  | cons i l =>
    exfalso
    rw [List.foldl_cons] at hok
    simp only [ha, decide_false, Bool.and_false] at hok
    have := foldl_flag_false g (fun m => decide (2 * m + 1 < n)) l (g a i)
    rw [this] at hok
    exact Bool.false_ne_true hok

/-- not an instance of `chain_sim`: the bound `n` is a variable here (there: `r`), and the chain predicate is the flag fold of
    `binChainOK`/`nafChainOK`, which does not check `0 < m` -/
theorem foldl_inv (W : Affine F) (Q : W.Point) (n : ℕ) {α : Type} (g : ℕ → α → ℕ)
    (step : W.Point × W.CoordinateRing → α → W.Point × W.CoordinateRing)
    (hstep : ∀ m st a, Inv W Q n m st → 2 * m + 1 < n → Inv W Q n (g m a) (step st a))
    (l : List α) (m : ℕ) (st : W.Point × W.CoordinateRing) (h : Inv W Q n m st)
    (hok : (l.foldl (fun (s : ℕ × Bool) i => (g s.1 i, s.2 && decide (2 * s.1 + 1 < n)))
      (m, true)).2 = true) :
    Inv W Q n (l.foldl g m) (l.foldl step st) := by
  induction l generalizing m st with
  | nil => exact h
  | cons a l ih =>
    by_cases h2 : 2 * m + 1 < n
    · rw [List.foldl_cons] at hok
      simp only [h2, decide_true, Bool.and_true] at hok
      exact ih _ _ (hstep m st a h h2) hok
    · exact absurd (foldl_flag_nil_of_not g n _ m h2 hok) (List.cons_ne_nil _ _)

theorem loop_inv (W : Affine F) (Q : W.Point) (n : ℕ) (hn : ∀ k, 0 < k → k < n → k • Q ≠ 0)
    (h1 : 1 < n) (N : ℕ) (idx : List ℕ) (hbin : binChainOK N idx n = true) :
    Inv W Q n (chainVal N idx 1) (specLoop W (lineR W) Q N idx) :=
  foldl_inv W Q n (fun m i => 2 * m + (if bit N i then 1 else 0)) (specStep W (lineR W) Q N)
    (fun m st i h h2 => inv_specStep W Q n hn N i m st h h2) idx 1 _ (inv_start W Q n h1) hbin

theorem loopNaf_inv (W : Affine F) (Q : W.Point) (n : ℕ) (hn : ∀ k, 0 < k → k < n → k • Q ≠ 0)
    (h1 : 1 < n) (ds : List ℕ) (hnaf : nafChainOK ds n = true) :
    Inv W Q n (chainValNaf ds 1) (specLoopNaf W (lineR W) Q ds) :=
  foldl_inv W Q n nafNext (specStepNaf W (lineR W) Q)
    (fun m st d h h2 => inv_specStepNaf W Q n hn d m st h h2) ds 1 _ (inv_start W Q n h1) hnaf

theorem cancel_ptIdeal (W : Affine F) (N : W.Point) (hN : N ≠ 0) (A B : W.CoordinateRing)
    (h : Ideal.span {A} * ptIdeal W N = Ideal.span {B} * ptIdeal W N) :
    ∃ c : F, c ≠ 0 ∧ A = algebraMap F W.CoordinateRing c * B := by
  obtain ⟨x, y, hxy, rfl⟩ := exists_some_of_ne_zero W hN
  -- multiplying by `I(−N)` makes both sides principal: `I(−N)·I(N) = (X − x)`
  have key : Ideal.span {B * XClass W x} = Ideal.span {A * XClass W x} := by
    rw [← Ideal.span_singleton_mul_span_singleton, ← Ideal.span_singleton_mul_span_singleton,
      ← ptIdeal_neg_mul W hxy, mul_left_comm, ← h, mul_left_comm]
  obtain ⟨u, hu⟩ := Ideal.span_singleton_eq_span_singleton.mp key
  obtain ⟨c, hc, huc⟩ := coordinateRing_unit_const W u u.isUnit
  refine ⟨c, hc, mul_right_cancel₀ (CoordinateRing.XClass_ne_zero (W' := W) x) ?_⟩
  rw [← hu, huc]
  ring

theorem chain_indep_coordinateRing (W : Affine F) (Q : W.Point) (n : ℕ)
    (hn : ∀ k, 0 < k → k < n → k • Q ≠ 0)
    (N : ℕ) (idx ds : List ℕ) (hbin : binChainOK N idx n = true) (hnaf : nafChainOK ds n = true)
    (heq : chainVal N idx 1 = chainValNaf ds 1) :
    ∃ (c : F) (V1 V2 : W.CoordinateRing), c ≠ 0 ∧
      VertProd W (multX W Q n) V1 ∧ VertProd W (multX W Q n) V2 ∧
      (specLoop W (lineR W) Q N idx).2 * V2
        = algebraMap F W.CoordinateRing c * ((specLoopNaf W (lineR W) Q ds).2 * V1) := by
  by_cases h1 : 1 < n
  · obtain ⟨hM, hMn, hT1, V1, hV1, hI1⟩ := loop_inv W Q n hn h1 N idx hbin
    obtain ⟨-, -, hT2, V2, hV2, hI2⟩ := loopNaf_inv W Q n hn h1 ds hnaf
    rw [hT1] at hI1
    rw [hT2, ← heq] at hI2
    generalize specLoop W (lineR W) Q N idx = s1 at hI1 ⊢
    generalize specLoopNaf W (lineR W) Q ds = s2 at hI2 ⊢
    obtain ⟨c, hc, e⟩ := cancel_ptIdeal W _ (hn _ hM hMn) (s1.2 * V2) (s2.2 * V1) <| by
      calc Ideal.span {s1.2 * V2} * ptIdeal W (chainVal N idx 1 • Q)
          = Ideal.span {s1.2} * ptIdeal W (chainVal N idx 1 • Q) * Ideal.span {V2} := by
            rw [← Ideal.span_singleton_mul_span_singleton, mul_right_comm]
        _ = Ideal.span {s2.2} * ptIdeal W (chainVal N idx 1 • Q) * Ideal.span {V1} := by
            rw [hI1, hI2, mul_right_comm]
        _ = _ := by rw [← Ideal.span_singleton_mul_span_singleton, mul_right_comm]
    exact ⟨c, V1, V2, hc, hV1, hV2, e⟩
  · -- both chains are empty
    have e1 := foldl_flag_nil_of_not (fun m i => 2 * m + (if bit N i then 1 else 0)) n idx 1 (by omega) hbin
    have e2 := foldl_flag_nil_of_not nafNext n ds 1 (by omega) hnaf
    subst e1 e2
    exact ⟨1, 1, 1, one_ne_zero, VertProd.one, VertProd.one, by simp [specLoop, specLoopNaf]⟩

end Miller
end Sm9
