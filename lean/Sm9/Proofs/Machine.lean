import Mathlib.Data.List.Forall2
/-!
What the register machines with failure share: `OptRel R` relates two `Option` results (both fail, or both
succeed with `R`-related values), register files are related register by register (`List.Forall₂ R`), and a
step that simulates lifts to runs (`foldlM_sim`).
-/
namespace Sm9
open List (Forall₂)

def OptRel {α β : Type} (R : α → β → Prop) : Option α → Option β → Prop
  | some a, some b => R a b
  | none, none => True
  | _, _ => False

theorem OptRel.none_none {α β : Type} {R : α → β → Prop} : OptRel R none none := trivial

theorem OptRel.some_some {α β : Type} {R : α → β → Prop} {a : α} {b : β} (h : R a b) : OptRel R (some a) (some b) := h

theorem OptRel.ite {α β : Type} {R : α → β → Prop} {c : Prop} [Decidable c] {x x' : Option α} {y y' : Option β}
    (h : OptRel R x y) (h' : OptRel R x' y') : OptRel R (if c then x else x') (if c then y else y') := by
  split <;> assumption

@[elab_as_elim]
theorem OptRel.cases {α β : Type} {R : α → β → Prop} {motive : Option α → Option β → Prop} {x : Option α} {y : Option β}
    (h : OptRel R x y) (hn : motive none none) (hs : ∀ a b, R a b → motive (some a) (some b)) : motive x y := by
  cases x <;> cases y
  exacts [hn, False.elim h, False.elim h, hs _ _ h]

theorem OptRel.none_iff {α β : Type} {R : α → β → Prop} {x : Option α} {y : Option β} (h : OptRel R x y) :
    x = none ↔ y = none :=
  h.cases ⟨fun _ => rfl, fun _ => rfl⟩ fun _ _ _ => ⟨nofun, nofun⟩

theorem OptRel.of_some {α β : Type} {R : α → β → Prop} {x : Option α} {y : Option β} {b : β}
    (h : OptRel R x y) (hy : y = some b) : ∃ a, x = some a ∧ R a b := by
  subst hy
  cases x with
  | none => exact h.elim
  | some a => exact ⟨a, rfl, h⟩

theorem OptRel.of_some_left {α β : Type} {R : α → β → Prop} {x : Option α} {y : Option β} {a : α}
    (h : OptRel R x y) (hx : x = some a) : ∃ b, y = some b ∧ R a b := by
  subst hx
  cases y with
  | none => exact h.elim
  | some b => exact ⟨b, rfl, h⟩

theorem OptRel.getD {α β : Type} {R : α → β → Prop} {x : Option α} {y : Option β} (h : OptRel R x y) {z : α} {z' : β}
    (hz : R z z') : R (x.getD z) (y.getD z') := h.cases hz fun _ _ hab => hab

section
variable {α β γ : Type} {R : α → β → Prop}

theorem lookup_rel {regs : List α} {ds : List β} (h : Forall₂ R regs ds) (i : Nat) :
    OptRel R regs[i]? ds[i]? := by
  have hlen := h.length_eq
  by_cases hi : i < regs.length
  · have hi' : i < ds.length := hlen ▸ hi
    have hr : R regs[i] ds[i] := by
      have := List.Forall₂.get h hi hi'
      simpa using this
    rw [List.getElem?_eq_getElem hi, List.getElem?_eq_getElem hi']
    exact hr
  · rw [List.getElem?_eq_none (by omega), List.getElem?_eq_none (by omega)]
    trivial

theorem forall₂_left {C : α → Prop} (hC : ∀ x a, R x a → C x) {regs : List α} {ds : List β} (h : Forall₂ R regs ds) :
    ∀ x ∈ regs, C x := by
  induction h with
  | nil => intro x hx; cases hx
  | cons hr _ ih =>
    intro x hx
    rcases List.mem_cons.mp hx with rfl | hx
    exacts [hC _ _ hr, ih x hx]

theorem forall₂_map_eq {f : α → γ} {g : β → γ} (hfg : ∀ x a, R x a → f x = g a)
    {regs : List α} {ds : List β} (h : Forall₂ R regs ds) : regs.map f = ds.map g := by
  have := List.rel_map (P := Eq) (fun x a hxa => hfg x a hxa) h
  rwa [List.forall₂_eq_eq_eq] at this

theorem beq_eq_decide_of_biUnique [BEq α] [LawfulBEq α] [DecidableEq β] (hR : Relator.BiUnique R) {x y : α} {a b : β}
    (hx : R x a) (hy : R y b) : (x == y) = decide (a = b) :=
  Bool.eq_iff_iff.mpr (by rw [beq_iff_eq, decide_eq_true_iff]; exact Relator.rel_eq hR hx hy)

end

section run
variable {σ τ ι : Type} {S : σ → τ → Prop} {f : σ → ι → Option σ} {g : τ → ι → Option τ}

/-- simulation of runs when a step simulates only under a side condition `P` on the abstract state: `Q`, a predicate on
    (abstract state, rest of the program), must give `P` for the next step and itself after it -/
theorem foldlM_sim_of {P : τ → ι → Prop} {Q : τ → List ι → Prop}
    (hQ : ∀ t i p, Q t (i :: p) → P t i ∧ ∀ t', g t i = some t' → Q t' p)
    (hstep : ∀ s t i, S s t → P t i → OptRel S (f s i) (g t i)) :
    ∀ (p : List ι) (s : σ) (t : τ), S s t → Q t p → OptRel S (p.foldlM f s) (p.foldlM g t) := by
  intro p
  induction p with
  | nil => intro s t h _; exact h
  | cons i p ih =>
    intro s t h hq
    obtain ⟨hp, hq'⟩ := hQ t i p hq
    rw [List.foldlM_cons, List.foldlM_cons]
    have hs := hstep s t i h hp
    cases hg : g t i with
    | none => rw [hs.none_iff.mpr hg]; trivial
    | some t' =>
      obtain ⟨s', hf, h'⟩ := hs.of_some hg
      rw [hf]
      exact ih s' t' h' (hq' t' hg)

theorem foldlM_sim (hstep : ∀ s t i, S s t → OptRel S (f s i) (g t i)) (p : List ι) (s : σ) (t : τ) (h : S s t) :
    OptRel S (p.foldlM f s) (p.foldlM g t) :=
  foldlM_sim_of (P := fun _ _ => True) (Q := fun _ _ => True) (fun _ _ _ _ => ⟨trivial, fun _ _ => trivial⟩)
    (fun s t i h _ => hstep s t i h) p s t h trivial

end run

end Sm9
