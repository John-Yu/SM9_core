import Sm9.Model.Mont
import Sm9.Proofs.MontBasic
import Sm9.Proofs.Bytes
import Mathlib.Tactic.Ring
import Mathlib.Tactic.Linarith
import Mathlib.Tactic.LinearCombination
import Mathlib.Algebra.Order.Ring.Nat
import Mathlib.Data.Nat.ModEq
/-!
# Limb level refines value level: Montgomery multiplication (u256.rs `mul`, `square`)

The two loop nests of `U256::mul` (operand-scanning product, then four REDC rows) are read one row at a time
(`macRow_cons`, `mulAcc_cons`, `redc_cons`), for any limb base `B`.  The squaring schedule of `U256::square` produces
the same eight limbs as the product, so `square a = mul a a` for all inputs.
-/

namespace Sm9

namespace Limb
variable (B : Nat)

theorem value_append (xs ys : List Nat) :
    value B (xs ++ ys) = value B xs + B ^ xs.length * value B ys := by
  induction xs with
  | nil => simp [value]
  | cons x xs ih => simp only [List.cons_append, value, ih, List.length_cons, pow_succ]; ring

theorem value_take_drop (n : Nat) (xs : List Nat) (h : n ≤ xs.length) :
    value B (xs.take n) + B ^ n * value B (xs.drop n) = value B xs := by
  have := value_append B (xs.take n) (xs.drop n)
  rw [List.take_append_drop, List.length_take, Nat.min_eq_left h] at this
  exact this.symm

theorem value_take_succ (n : Nat) (acc : List Nat) :
    value B (acc.take (n + 1)) = acc.headD 0 + B * value B (acc.tail.take n) := by
  cases acc <;> simp [value]

theorem value_replicate_zero (n : Nat) : value B (List.replicate n 0) = 0 := by
  induction n with
  | zero => rfl
  | succ n ih => simp [List.replicate_succ, value, ih]

theorem add_mul_lt_pow_succ {x v n : Nat} (hx : x < B) (hv : v < B ^ n) : x + B * v < B ^ (n + 1) :=
  calc x + B * v < B * (v + 1) := by
        rw [mul_add, mul_one, add_comm]; exact Nat.add_lt_add_left hx _
    _ ≤ B * B ^ n := Nat.mul_le_mul_left _ hv
    _ = B ^ (n + 1) := (pow_succ' B n).symm

theorem value_lt (t : List Nat) (h : ∀ x ∈ t, x < B) : value B t < B ^ t.length := by
  induction t with
  | nil => simp [value]
  | cons x xs ih =>
    rw [List.forall_mem_cons] at h
    exact add_mul_lt_pow_succ B h.1 (ih h.2)

theorem value_digits (n v : Nat) : value B (digits B n v) = v % B ^ n := by
  induction n generalizing v with
  | zero => simp [digits, value, Nat.mod_one]
  | succ n ih =>
    simp only [digits, value, ih]
    rw [pow_succ, mul_comm (B ^ n) B, Nat.mod_mul]

theorem digits_lt (hB : 0 < B) (n v : Nat) : ∀ x ∈ digits B n v, x < B := by
  induction n generalizing v with
  | zero => simp [digits]
  | succ n ih => rw [digits, List.forall_mem_cons]; exact ⟨Nat.mod_lt _ hB, ih _⟩

theorem value_inj (hB : 0 < B) (xs ys : List Nat) (hlen : xs.length = ys.length)
    (hx : ∀ x ∈ xs, x < B) (hy : ∀ y ∈ ys, y < B) (h : value B xs = value B ys) : xs = ys := by
  induction xs generalizing ys with
  | nil => exact (List.eq_nil_of_length_eq_zero hlen.symm).symm
  | cons x xs ih =>
    obtain ⟨y, ys, rfl⟩ := List.exists_cons_of_length_eq_add_one hlen.symm
    rw [List.forall_mem_cons] at hx hy
    simp only [value] at h
    have h1 : x = y := by
      have := congrArg (· % B) h
      simpa [Nat.add_mul_mod_self_left, Nat.mod_eq_of_lt hx.1, Nat.mod_eq_of_lt hy.1] using this
    subst h1
    rw [ih ys (by simpa using hlen) hx.2 hy.2 (Nat.eq_of_mul_eq_mul_left hB (Nat.add_left_cancel h))]

theorem mac_spec (a b c carry : Nat) :
    (mac B a b c carry).1 + B * (mac B a b c carry).2 = a + b * c + carry :=
  Nat.mod_add_div _ _

theorem mac_fst_lt (hB : 0 < B) (a b c d : Nat) : (mac B a b c d).1 < B := Nat.mod_lt _ hB

/-- `(B-1) + (B-1)² + (B-1) < B²` -/
theorem mac_snd_lt (a b c d : Nat) (ha : a < B) (hb : b < B) (hc : c < B) (hd : d < B) :
    (mac B a b c d).2 < B := by
  apply Nat.div_lt_of_lt_mul
  obtain ⟨n, rfl⟩ : ∃ n, B = n + 1 := ⟨B - 1, by omega⟩
  have h : b * c ≤ n * n := Nat.mul_le_mul (by omega) (by omega)
  have e : (n + 1) * (n + 1) = n * n + 2 * n + 1 := by ring
  omega

theorem mac_cases (hB : 0 < B) (a b c d : Nat) :
    ∃ lo hi, mac B a b c d = (lo, hi) ∧ lo < B ∧ lo + B * hi = a + b * c + d :=
  ⟨_, _, rfl, mac_fst_lt B hB .., mac_spec B ..⟩

theorem adc_cases (hB : 0 < B) (a b c : Nat) :
    ∃ lo hi, adc B a b c = (lo, hi) ∧ lo < B ∧ lo + B * hi = a + b + c :=
  ⟨_, _, rfl, Nat.mod_lt _ hB, Nat.mod_add_div _ _⟩

@[simp] theorem macRow_nil (acc : List Nat) (d carry : Nat) :
    macRow B acc d [] carry = ([], carry) := by
  cases acc <;> rfl

/-- a missing accumulator limb counts as 0, so the two non-empty cases of `macRow` are one -/
theorem macRow_cons (acc : List Nat) (d e : Nat) (es : List Nat) (carry : Nat) :
    macRow B acc d (e :: es) carry =
      ((mac B (acc.headD 0) d e carry).1 ::
          (macRow B acc.tail d es (mac B (acc.headD 0) d e carry).2).1,
       (macRow B acc.tail d es (mac B (acc.headD 0) d e carry).2).2) := by
  cases acc <;> rfl

theorem macRow_spec (acc : List Nat) (d : Nat) (e : List Nat) (carry : Nat) :
    value B (macRow B acc d e carry).1 + B ^ e.length * (macRow B acc d e carry).2
      = value B (acc.take e.length) + d * value B e + carry := by
  induction e generalizing acc carry with
  | nil => simp [value]
  | cons e es ih =>
    rw [macRow_cons, List.length_cons, value_take_succ]
    simp only [value]
    linear_combination mac_spec B (acc.headD 0) d e carry
      + B * ih acc.tail (mac B (acc.headD 0) d e carry).2

theorem macRow_length (acc : List Nat) (d : Nat) (e : List Nat) (carry : Nat) :
    (macRow B acc d e carry).1.length = e.length := by
  induction e generalizing acc carry with
  | nil => simp
  | cons e es ih => simp [macRow_cons, ih]

theorem macRow_lt (hB : 0 < B) (acc : List Nat) (d : Nat) (e : List Nat) (carry : Nat) :
    ∀ x ∈ (macRow B acc d e carry).1, x < B := by
  induction e generalizing acc carry with
  | nil => simp
  | cons e es ih =>
    rw [macRow_cons, List.forall_mem_cons]
    exact ⟨mac_fst_lt B hB .., ih _ _⟩

theorem macRow_carry_lt (acc : List Nat) (d : Nat) (e : List Nat) (carry : Nat)
    (hacc : ∀ x ∈ acc, x < B) (hd : d < B) (he : ∀ x ∈ e, x < B) (hc : carry < B) :
    (macRow B acc d e carry).2 < B := by
  induction e generalizing acc carry with
  | nil => simpa
  | cons e es ih =>
    rw [List.forall_mem_cons] at he
    rw [macRow_cons]
    refine ih _ _ (fun x hx => hacc x (List.mem_of_mem_tail hx)) he.2
      (mac_snd_lt B _ _ _ _ ?_ hd he.1 hc)
    cases acc with
    | nil => exact Nat.zero_lt_of_lt hc
    | cons a as => exact hacc a (by simp)

theorem carry_eq_zero {x c n : Nat} (h : x + n * c < n) : c = 0 := by
  by_contra hc
  have := Nat.le_mul_of_pos_right n (Nat.pos_of_ne_zero hc)
  omega

theorem macRow_value_of_lt (acc : List Nat) (d : Nat) (e : List Nat) (hacc : acc.length = e.length)
    (h : value B acc + d * value B e < B ^ e.length) :
    value B (macRow B acc d e 0).1 = value B acc + d * value B e := by
  have hs := macRow_spec B acc d e 0
  rw [← hacc, List.take_length, add_zero] at hs
  rw [← hacc, ← hs] at h
  rw [← hs, carry_eq_zero h, mul_zero, add_zero]

theorem mulAcc_cons (w : List Nat) (d : Nat) (ds e : List Nat) (hw : w.length = e.length) :
    ∃ x r, mulAcc B w (d :: ds) e = x :: mulAcc B r ds e ∧ r.length = e.length ∧
      x + B * value B r = value B w + d * value B e ∧
      (0 < B → (∀ y ∈ w, y < B) → d < B → (∀ y ∈ e, y < B) → x < B ∧ ∀ y ∈ r, y < B) := by
  have hs := macRow_spec B w d e 0
  have hl := macRow_length B w d e 0
  have hlt := fun hB => macRow_lt B hB w d e 0
  have hc := macRow_carry_lt B w d e 0
  rw [← hw, List.take_length, add_zero] at hs
  rw [mulAcc]
  generalize macRow B w d e 0 = rc at hs hl hlt hc ⊢
  obtain ⟨_ | ⟨x, xs⟩, c⟩ := rc
  · obtain rfl := List.eq_nil_of_length_eq_zero hl.symm
    obtain rfl := List.eq_nil_of_length_eq_zero hw
    exact ⟨c, [], rfl, rfl, by simpa [value] using hs, fun hB hw hd he => ⟨hc hw hd he hB, by simp⟩⟩
  · refine ⟨x, xs ++ [c], rfl, by simpa using hl, ?_, fun hB hw hd he => ?_⟩
    · rw [value_append, ← hs, hw, ← hl]; simp only [value, List.length_cons, pow_succ]; ring
    · have := hlt hB
      rw [List.forall_mem_cons] at this
      simp only [List.forall_mem_append, List.forall_mem_singleton]
      exact ⟨this.1, this.2, hc hw hd he hB⟩

theorem mulAcc_spec (w ds e : List Nat) (hw : w.length = e.length) :
    value B (mulAcc B w ds e) = value B w + value B ds * value B e := by
  induction ds generalizing w with
  | nil => simp [mulAcc, value]
  | cons d ds ih =>
    obtain ⟨x, r, h, hl, hv, -⟩ := mulAcc_cons B w d ds e hw
    rw [h, value, ih r hl, value]
    linear_combination hv

theorem mulAcc_length (w ds e : List Nat) (hw : w.length = e.length) :
    (mulAcc B w ds e).length = ds.length + e.length := by
  induction ds generalizing w with
  | nil => simp [mulAcc, hw]
  | cons d ds ih =>
    obtain ⟨x, r, h, hl, -⟩ := mulAcc_cons B w d ds e hw
    rw [h, List.length_cons, ih r hl, List.length_cons]; omega

theorem mulAcc_lt (hB : 0 < B) (w ds e : List Nat) (hwe : w.length = e.length)
    (hw : ∀ x ∈ w, x < B) (hds : ∀ x ∈ ds, x < B) (he : ∀ x ∈ e, x < B) :
    ∀ x ∈ mulAcc B w ds e, x < B := by
  induction ds generalizing w with
  | nil => simpa [mulAcc] using hw
  | cons d ds ih =>
    rw [List.forall_mem_cons] at hds
    obtain ⟨x, r, h, hl, -, hb⟩ := mulAcc_cons B w d ds e hwe
    rw [h, List.forall_mem_cons]
    exact ⟨(hb hB hw hds.1 he).1, ih r hl (hb hB hw hds.1 he).2 hds.2⟩

theorem mulLimbs_spec (d e : List Nat) : value B (mulLimbs B d e) = value B d * value B e := by
  unfold mulLimbs
  rw [mulAcc_spec B _ _ _ (by simp), value_replicate_zero]
  omega

theorem mulLimbs_length (d e : List Nat) : (mulLimbs B d e).length = d.length + e.length :=
  mulAcc_length B _ _ _ (by simp)

theorem mulLimbs_lt (hB : 0 < B) (d e : List Nat) (hd : ∀ x ∈ d, x < B) (he : ∀ x ∈ e, x < B) :
    ∀ x ∈ mulLimbs B d e, x < B :=
  mulAcc_lt B hB _ _ _ (by simp) (fun x hx => (List.eq_of_mem_replicate hx).symm ▸ hB) hd he

/-- with `inv = -m₀⁻¹ mod B` the multiplier `k = w₀·inv mod B` clears the lowest limb of `w + k·m` -/
theorem row_head_zero (inv m0 w0 : Nat) (hB : 0 < B) (hinv : (m0 * inv) % B = B - 1) :
    (w0 + ((w0 * inv) % B) * m0 + 0) % B = 0 := by
  have h : (w0 * inv % B) * m0 ≡ w0 * (B - 1) [MOD B] :=
    calc (w0 * inv % B) * m0 ≡ (w0 * inv) * m0 [MOD B] := (Nat.mod_modEq _ _).mul_right _
      _ = w0 * (m0 * inv) := by ring
      _ ≡ w0 * (B - 1) [MOD B] :=
        Nat.ModEq.mul_left _ (by rw [Nat.ModEq, hinv, Nat.mod_eq_of_lt (by omega)])
  have e : w0 + w0 * (B - 1) = w0 * B := by
    obtain ⟨n, rfl⟩ : ∃ n, B = n + 1 := ⟨B - 1, by omega⟩
    rw [Nat.add_sub_cancel]; ring
  rw [Nat.add_zero, (h.add_left w0 : _ % B = _ % B), e, Nat.mul_mod_left]

theorem macRow_mont (inv m0 w0 : Nat) (ws ms : List Nat) (hB : 0 < B)
    (hinv : (m0 * inv) % B = B - 1) :
    value B (macRow B (w0 :: ws) (w0 * inv % B) (m0 :: ms) 0).1
      = B * value B (macRow B (w0 :: ws) (w0 * inv % B) (m0 :: ms) 0).1.tail := by
  rw [macRow_cons, List.headD_cons, List.tail_cons, value,
    show (mac B w0 (w0 * inv % B) m0 0).1 = 0 from row_head_zero B inv m0 w0 hB hinv, zero_add]
  rfl

/-- one step of the Montgomery reduction: the state, read as the number
    `value w + B^n·(value hi + carry2)`, gains `k·m` and loses a factor `B` -/
theorem redc_cons (inv m0 : Nat) (ms : List Nat) (hB : 0 < B) (hinv : (m0 * inv) % B = B - 1)
    (w : List Nat) (h : Nat) (hi : List Nat) (carry2 : Nat) (hw : w.length = (m0 :: ms).length) :
    ∃ k w' c', k < B ∧ w'.length = (m0 :: ms).length ∧
      redc B inv (m0 :: ms) w (h :: hi) carry2 = redc B inv (m0 :: ms) w' hi c' ∧
      B * (value B w' + B ^ (m0 :: ms).length * c')
        = value B w + B ^ (m0 :: ms).length * (h + carry2) + k * value B (m0 :: ms) := by
  obtain ⟨w0, ws, rfl⟩ := List.exists_cons_of_length_eq_add_one hw
  have hs := macRow_spec B (w0 :: ws) (w0 * inv % B) (m0 :: ms) 0
  have hl := macRow_length B (w0 :: ws) (w0 * inv % B) (m0 :: ms) 0
  rw [← hw, List.take_length, add_zero] at hs
  rw [redc, List.headD_cons]
  rw [macRow_cons, List.headD_cons, List.tail_cons] at hs hl ⊢
  have h0 : (mac B w0 (w0 * inv % B) m0 0).1 = 0 := row_head_zero B inv m0 w0 hB hinv
  generalize macRow B ws (w0 * inv % B) ms (mac B w0 (w0 * inv % B) m0 0).2 = r at hs hl ⊢
  simp only [List.length_cons, Nat.add_right_cancel_iff] at hl hw
  refine ⟨w0 * inv % B, r.1 ++ [(h + r.2 + carry2) % B], (h + r.2 + carry2) / B,
    Nat.mod_lt _ hB, by simp [hl], rfl, ?_⟩
  rw [value_append, hl]
  simp only [value, h0, List.length_cons, pow_succ, hw] at hs ⊢
  linear_combination hs + B ^ ms.length * B * Nat.mod_add_div (h + r.2 + carry2) B

theorem redc_spec (inv : Nat) (m0 : Nat) (ms : List Nat) (hB : 0 < B)
    (hinv : (m0 * inv) % B = B - 1) (w hi : List Nat) (carry2 : Nat)
    (hw : w.length = (m0 :: ms).length) :
    ∃ k, k < B ^ hi.length ∧
      B ^ hi.length * (value B (redc B inv (m0 :: ms) w hi carry2).1
            + B ^ (m0 :: ms).length * (redc B inv (m0 :: ms) w hi carry2).2)
        = value B w + B ^ (m0 :: ms).length * (value B hi + carry2) + k * value B (m0 :: ms) := by
  induction hi generalizing w carry2 with
  | nil => exact ⟨0, by simp, by simp [redc, value]⟩
  | cons h hi ih =>
    obtain ⟨k, w', c', hk, hw', hstep, hv⟩ := redc_cons B inv m0 ms hB hinv w h hi carry2 hw
    obtain ⟨k', hk', hv'⟩ := ih w' c' hw'
    refine ⟨k + B * k', add_mul_lt_pow_succ B hk hk', ?_⟩
    rw [hstep, List.length_cons, pow_succ, value]
    linear_combination B * hv' + hv

end Limb

namespace U256

theorem B64_pos : 0 < B64 := by unfold B64; exact Nat.pow_pos (by decide)

theorem B64_pow4 : B64 ^ 4 = W256 := by decide +kernel

theorem limbs_length (a : Nat) : (limbs a).length = 4 := Limb.digits_length _ _ _

theorem limbs_lt (a : Nat) : ∀ x ∈ limbs a, x < B64 := Limb.digits_lt _ B64_pos _ _

theorem value_limbs (a : Nat) (ha : a < W256) : Limb.value B64 (limbs a) = a := by
  rw [limbs, Limb.value_digits, B64_pow4, Nat.mod_eq_of_lt ha]

theorem getL_limbs_lt (a j : Nat) : getL (limbs a) j < B64 := by
  rw [getL, List.getD_eq_getElem?_getD]
  cases h : (limbs a)[j]? with
  | none => exact B64_pos
  | some x => exact limbs_lt a x (List.mem_of_getElem? h)

theorem ofLimbs_limbs (a : Nat) (ha : a < W256) : ofLimbs (limbs a) = a := value_limbs a ha

theorem limbs_cons (m : Nat) : limbs m = (m % B64) :: Limb.digits B64 3 (m / B64) := rfl

theorem limbs_eq (a : Nat) : limbs a = [a % B64, a / B64 % B64, a / B64 / B64 % B64, a / B64 / B64 / B64 % B64] := rfl
theorem B64_eq : B64 = 18446744073709551616 := by decide +kernel

/-- the common tail of `mul` and `square`: four REDC rows on an 8-limb number, then the
    conditional subtraction -/
def montReduce (t : List Nat) (m inv : Nat) : Nat :=
  subtract_modulus_with_carry (ofLimbs (Limb.redc B64 inv (limbs m) (t.take 4) (t.drop 4) 0).1) m
    ((Limb.redc B64 inv (limbs m) (t.take 4) (t.drop 4) 0).2 != 0)

theorem mul_eq_montReduce (a b m inv : Nat) :
    mul a b m inv = montReduce (Limb.mulLimbs B64 (limbs a) (limbs b)) m inv := rfl

theorem square_eq_montReduce (a m inv : Nat) :
    square a m inv = montReduce (sqDiag (limbs a) (sqShift (sqOffDiag (limbs a)))) m inv := rfl

theorem redc_limbs_spec (t : List Nat) (m inv : Nat) (ht : t.length = 8) (hm : m < W256)
    (hinv : (m * inv) % 2 ^ 64 = 2 ^ 64 - 1) :
    ∃ k, k < W256 ∧
      W256 * (ofLimbs (Limb.redc B64 inv (limbs m) (t.take 4) (t.drop 4) 0).1
          + W256 * (Limb.redc B64 inv (limbs m) (t.take 4) (t.drop 4) 0).2)
        = Limb.value B64 t + k * m := by
  obtain ⟨k, hk, h⟩ := Limb.redc_spec B64 inv (m % B64) (Limb.digits B64 3 (m / B64)) B64_pos
    (by rw [Nat.mod_mul_mod]; exact hinv) (t.take 4) (t.drop 4) 0 (by simp [Limb.digits_length, ht])
  have hdrop : (t.drop 4).length = 4 := by simp [ht]
  rw [← limbs_cons, limbs_length, hdrop, B64_pow4, value_limbs m hm, add_zero] at h
  rw [hdrop, B64_pow4] at hk
  exact ⟨k, hk, by rw [ofLimbs, h, ← Limb.value_take_drop B64 4 t (by omega), B64_pow4]⟩

theorem mul_without_cond_subtract_spec (a b m inv : Nat) (ha : a < W256) (hb : b < W256)
    (hm : m < W256) (hinv : (m * inv) % 2 ^ 64 = 2 ^ 64 - 1) :
    ∃ k c2, k < W256 ∧ (mul_without_cond_subtract a b m inv).1 = (c2 != 0) ∧
        W256 * ((mul_without_cond_subtract a b m inv).2 + W256 * c2) = a * b + k * m := by
  obtain ⟨k, hk, h⟩ := redc_limbs_spec (Limb.mulLimbs B64 (limbs a) (limbs b)) m inv
    (by rw [Limb.mulLimbs_length]; rfl) hm hinv
  rw [Limb.mulLimbs_spec, value_limbs a ha, value_limbs b hb] at h
  exact ⟨k, _, hk, rfl, h⟩

theorem montReduce_spec (t : List Nat) (m inv : Nat) (ht : t.length = 8) (hm : m < W256)
    (hinv : (m * inv) % 2 ^ 64 = 2 ^ 64 - 1) (hT : Limb.value B64 t < m * W256) :
    montReduce t m inv < m ∧ (montReduce t m inv * W256) % m = Limb.value B64 t % m := by
  obtain ⟨k, hk, hspec⟩ := redc_limbs_spec t m inv ht hm hinv
  unfold montReduce
  generalize Limb.redc B64 inv (limbs m) (t.take 4) (t.drop 4) 0 = r at hspec ⊢
  -- `u = w + R·carry2 < 2m`, since `R·u = T + k·m < 2·R·m`
  have hu : ofLimbs r.1 + W256 * r.2 < 2 * m := by
    refine Nat.lt_of_mul_lt_mul_left (a := W256) ?_
    rw [hspec]
    calc _ < m * W256 + W256 * m := Nat.add_lt_add_of_lt_of_le hT (Nat.mul_le_mul_right _ hk.le)
      _ = W256 * (2 * m) := by ring
  have hc2 : r.2 = 0 ∨ r.2 = 1 := by
    by_contra h
    have : W256 * 2 ≤ W256 * r.2 := Nat.mul_le_mul_left _ (by omega)
    omega
  rw [subtract_modulus_with_carry_eq _ m _ _ hm hu (by rcases hc2 with h | h <;> simp [h])]
  refine ⟨Nat.mod_lt _ (by omega), ?_⟩
  rw [Nat.mod_mul_mod, mul_comm, hspec, Nat.add_mul_mod_self_right]

theorem mul_refines_gen (a b m inv : Nat) (hm : m < W256)
    (hinv : (m * inv) % 2 ^ 64 = 2 ^ 64 - 1) (ha : a < W256) (hb : b < W256)
    (hab : a * b < m * W256) :
    mul a b m inv < m ∧ (mul a b m inv * W256) % m = (a * b) % m := by
  have hv : Limb.value B64 (Limb.mulLimbs B64 (limbs a) (limbs b)) = a * b := by
    rw [Limb.mulLimbs_spec, value_limbs a ha, value_limbs b hb]
  rw [mul_eq_montReduce, ← hv]
  exact montReduce_spec _ m inv (by rw [Limb.mulLimbs_length]; rfl) hm hinv (hv ▸ hab)

/-- `U256::mul` returns the canonical representative of `a·b·R⁻¹ mod m`, `R = 2^256`.  `m % 2 = 1` and
    `inv < 2^64` are not needed: oddness of `m` is implied by `hinv`. -/
theorem mul_refines (a b m inv : Nat) (hm : m < W256) (hm2 : W256 < 2 * m)
    (hinv : (m * inv) % 2 ^ 64 = 2 ^ 64 - 1) (ha : a < m) (hb : b < m) :
    mul a b m inv < m ∧ (mul a b m inv * W256) % m = (a * b) % m :=
  mul_refines_gen a b m inv hm hinv (ha.trans hm) (hb.trans hm)
    ((Nat.mul_le_mul_right b ha.le).trans_lt (Nat.mul_lt_mul_of_pos_left (hb.trans hm) (by omega)))

/-! `U256::square`: explicit forms (all by `rfl`) of the three passes on four symbolic limbs, their value
equations; two canonical digit lists of one value are equal (`Limb.value_inj`). -/
section Square
open Limb

def sqOff4 (a0 a1 a2 a3 : Nat) : List Nat :=
  let m01 := mac B64 0 a0 a1 0
  let m02 := mac B64 0 a0 a2 m01.2
  let m03 := mac B64 0 a0 a3 m02.2
  let m12 := mac B64 m03.1 a1 a2 0
  let m13 := mac B64 m03.2 a1 a3 m12.2
  let m23 := mac B64 m13.2 a2 a3 0
  [0, m01.1, m02.1, m12.1, m13.1, m23.1, m23.2, 0]

theorem sqOffDiag_eq (a0 a1 a2 a3 : Nat) : sqOffDiag [a0, a1, a2, a3] = sqOff4 a0 a1 a2 a3 := rfl

def shl1 (x y : Nat) : Nat := ((x <<< 1) % B64) ||| (y >>> 63)

theorem sqShift_eq (r0 r1 r2 r3 r4 r5 r6 r7 : Nat) :
    sqShift [r0, r1, r2, r3, r4, r5, r6, r7] =
      [r0, (r1 <<< 1) % B64, shl1 r2 r1, shl1 r3 r2, shl1 r4 r3, shl1 r5 r4, shl1 r6 r5, r6 >>> 63] := rfl

def sqDiag4 (a0 a1 a2 a3 r0 r1 r2 r3 r4 r5 r6 r7 : Nat) : List Nat × Nat :=
  let m0 := mac B64 r0 a0 a0 0
  let c0 := adc B64 r1 0 m0.2
  let m1 := mac B64 r2 a1 a1 c0.2
  let c1 := adc B64 r3 0 m1.2
  let m2 := mac B64 r4 a2 a2 c1.2
  let c2 := adc B64 r5 0 m2.2
  let m3 := mac B64 r6 a3 a3 c2.2
  let c3 := adc B64 r7 0 m3.2
  ([m0.1, c0.1, m1.1, c1.1, m2.1, c2.1, m3.1, c3.1], c3.2)

theorem sqDiag_eq (a0 a1 a2 a3 r0 r1 r2 r3 r4 r5 r6 r7 : Nat) :
    sqDiag [a0, a1, a2, a3] [r0, r1, r2, r3, r4, r5, r6, r7] =
      (sqDiag4 a0 a1 a2 a3 r0 r1 r2 r3 r4 r5 r6 r7).1 := rfl

theorem shl1_eq (x y : Nat) (hy : y < B64) : shl1 x y = (2 * x) % B64 + y / 2 ^ 63 := by
  unfold shl1
  rw [Nat.shiftLeft_eq, Nat.shiftRight_eq_div_pow, pow_one, mul_comm x 2]
  rw [B64_eq] at hy ⊢
  apply even_or_bit <;> omega

theorem shl0_eq (x : Nat) : (x <<< 1) % B64 = (2 * x) % B64 := by
  rw [Nat.shiftLeft_eq, pow_one, mul_comm]

theorem dbl_split (x : Nat) : 2 * x = (2 * x) % B64 + B64 * (x / 2 ^ 63) := by
  rw [B64_eq]; omega

theorem shl_lt (x y : Nat) (hy : y < B64) : (2 * x) % B64 + y / 2 ^ 63 < B64 := by
  rw [B64_eq] at hy ⊢; omega

theorem mac64_cases (a b c d : Nat) :
    ∃ lo hi, mac B64 a b c d = (lo, hi) ∧ lo < B64 ∧ lo + B64 * hi = a + b * c + d :=
  Limb.mac_cases B64 B64_pos a b c d

theorem adc64_cases (a b c : Nat) :
    ∃ lo hi, adc B64 a b c = (lo, hi) ∧ lo < B64 ∧ lo + B64 * hi = a + b + c :=
  Limb.adc_cases B64 B64_pos a b c

theorem offdiag_spec (a0 a1 a2 a3 : Nat) :
    ∃ p1 p2 p3 p4 p5 p6, sqOffDiag [a0, a1, a2, a3] = [0, p1, p2, p3, p4, p5, p6, 0] ∧
      p1 < B64 ∧ p2 < B64 ∧ p3 < B64 ∧ p4 < B64 ∧ p5 < B64 ∧
      p1 * B64 + p2 * B64 ^ 2 + p3 * B64 ^ 3 + p4 * B64 ^ 4 + p5 * B64 ^ 5 + p6 * B64 ^ 6
        = a0 * a1 * B64 + a0 * a2 * B64 ^ 2 + (a0 * a3 + a1 * a2) * B64 ^ 3
          + a1 * a3 * B64 ^ 4 + a2 * a3 * B64 ^ 5 := by
  rw [sqOffDiag_eq]
  unfold sqOff4
  obtain ⟨l01, c01, e01, b01, s01⟩ := mac64_cases 0 a0 a1 0
  simp only [e01]
  obtain ⟨l02, c02, e02, b02, s02⟩ := mac64_cases 0 a0 a2 c01
  simp only [e02]
  obtain ⟨l03, c03, e03, b03, s03⟩ := mac64_cases 0 a0 a3 c02
  simp only [e03]
  obtain ⟨l12, c12, e12, b12, s12⟩ := mac64_cases l03 a1 a2 0
  simp only [e12]
  obtain ⟨l13, c13, e13, b13, s13⟩ := mac64_cases c03 a1 a3 c12
  simp only [e13]
  obtain ⟨l23, c23, e23, b23, s23⟩ := mac64_cases c13 a2 a3 0
  simp only [e23]
  refine ⟨_, _, _, _, _, _, rfl, b01, b02, b12, b13, b23, ?_⟩
  linear_combination B64 * s01 + B64 ^ 2 * s02 + B64 ^ 3 * s03 + B64 ^ 3 * s12
    + B64 ^ 4 * s13 + B64 ^ 5 * s23

theorem shift_spec (p1 p2 p3 p4 p5 p6 : Nat) (h1 : p1 < B64) (h2 : p2 < B64) (h3 : p3 < B64)
    (h4 : p4 < B64) (h5 : p5 < B64) :
    ∃ s1 s2 s3 s4 s5 s6 s7, sqShift [0, p1, p2, p3, p4, p5, p6, 0] = [0, s1, s2, s3, s4, s5, s6, s7] ∧
      s1 * B64 + s2 * B64 ^ 2 + s3 * B64 ^ 3 + s4 * B64 ^ 4 + s5 * B64 ^ 5 + s6 * B64 ^ 6
          + s7 * B64 ^ 7
        = 2 * (p1 * B64 + p2 * B64 ^ 2 + p3 * B64 ^ 3 + p4 * B64 ^ 4 + p5 * B64 ^ 5
            + p6 * B64 ^ 6) := by
  rw [sqShift_eq, shl0_eq, shl1_eq _ _ h1, shl1_eq _ _ h2, shl1_eq _ _ h3, shl1_eq _ _ h4,
    shl1_eq _ _ h5, Nat.shiftRight_eq_div_pow]
  refine ⟨_, _, _, _, _, _, _, rfl, ?_⟩
  symm
  linear_combination B64 * dbl_split p1 + B64 ^ 2 * dbl_split p2 + B64 ^ 3 * dbl_split p3
    + B64 ^ 4 * dbl_split p4 + B64 ^ 5 * dbl_split p5 + B64 ^ 6 * dbl_split p6

theorem diag_spec (a0 a1 a2 a3 r0 r1 r2 r3 r4 r5 r6 r7 : Nat) :
    ∃ o0 o1 o2 o3 o4 o5 o6 o7 c,
      sqDiag [a0, a1, a2, a3] [r0, r1, r2, r3, r4, r5, r6, r7] = [o0, o1, o2, o3, o4, o5, o6, o7] ∧
      o0 < B64 ∧ o1 < B64 ∧ o2 < B64 ∧ o3 < B64 ∧ o4 < B64 ∧ o5 < B64 ∧ o6 < B64 ∧ o7 < B64 ∧
      o0 + o1 * B64 + o2 * B64 ^ 2 + o3 * B64 ^ 3 + o4 * B64 ^ 4 + o5 * B64 ^ 5 + o6 * B64 ^ 6
          + o7 * B64 ^ 7 + c * B64 ^ 8
        = r0 + r1 * B64 + r2 * B64 ^ 2 + r3 * B64 ^ 3 + r4 * B64 ^ 4 + r5 * B64 ^ 5 + r6 * B64 ^ 6
          + r7 * B64 ^ 7 + a0 * a0 + a1 * a1 * B64 ^ 2 + a2 * a2 * B64 ^ 4 + a3 * a3 * B64 ^ 6 := by
  rw [sqDiag_eq]
  unfold sqDiag4
  obtain ⟨l0, c0, e0, b0, s0⟩ := mac64_cases r0 a0 a0 0
  simp only [e0]
  obtain ⟨l1, c1, e1, b1, s1⟩ := adc64_cases r1 0 c0
  simp only [e1]
  obtain ⟨l2, c2, e2, b2, s2⟩ := mac64_cases r2 a1 a1 c1
  simp only [e2]
  obtain ⟨l3, c3, e3, b3, s3⟩ := adc64_cases r3 0 c2
  simp only [e3]
  obtain ⟨l4, c4, e4, b4, s4⟩ := mac64_cases r4 a2 a2 c3
  simp only [e4]
  obtain ⟨l5, c5, e5, b5, s5⟩ := adc64_cases r5 0 c4
  simp only [e5]
  obtain ⟨l6, c6, e6, b6, s6⟩ := mac64_cases r6 a3 a3 c5
  simp only [e6]
  obtain ⟨l7, c7, e7, b7, s7⟩ := adc64_cases r7 0 c6
  simp only [e7]
  refine ⟨_, _, _, _, _, _, _, _, c7, rfl, b0, b1, b2, b3, b4, b5, b6, b7, ?_⟩
  linear_combination s0 + B64 * s1 + B64 ^ 2 * s2 + B64 ^ 3 * s3 + B64 ^ 4 * s4 + B64 ^ 5 * s5
    + B64 ^ 6 * s6 + B64 ^ 7 * s7

theorem square_limbs_eq (a0 a1 a2 a3 : Nat) (h0 : a0 < B64) (h1 : a1 < B64) (h2 : a2 < B64)
    (h3 : a3 < B64) :
    sqDiag [a0, a1, a2, a3] (sqShift (sqOffDiag [a0, a1, a2, a3]))
      = mulLimbs B64 [a0, a1, a2, a3] [a0, a1, a2, a3] := by
  obtain ⟨p1, p2, p3, p4, p5, p6, ep, b1, b2, b3, b4, b5, hp⟩ := offdiag_spec a0 a1 a2 a3
  obtain ⟨s1, s2, s3, s4, s5, s6, s7, es, hs⟩ := shift_spec p1 p2 p3 p4 p5 p6 b1 b2 b3 b4 b5
  obtain ⟨o0, o1, o2, o3, o4, o5, o6, o7, c, eo, c0, c1, c2, c3, c4, c5, c6, c7, ho⟩ :=
    diag_spec a0 a1 a2 a3 0 s1 s2 s3 s4 s5 s6 s7
  rw [ep, es, eo]
  have hal : ∀ x ∈ [a0, a1, a2, a3], x < B64 := by simpa using ⟨h0, h1, h2, h3⟩
  have hA := value_lt B64 _ hal
  have hAA := Nat.mul_lt_mul'' hA hA
  simp only [value, List.length_cons, List.length_nil] at hAA
  have htot : o0 + o1 * B64 + o2 * B64 ^ 2 + o3 * B64 ^ 3 + o4 * B64 ^ 4 + o5 * B64 ^ 5
      + o6 * B64 ^ 6 + o7 * B64 ^ 7 + B64 ^ 8 * c
      = (a0 + B64 * (a1 + B64 * (a2 + B64 * (a3 + B64 * 0))))
        * (a0 + B64 * (a1 + B64 * (a2 + B64 * (a3 + B64 * 0)))) := by
    linear_combination ho + hs + 2 * hp
  obtain rfl : c = 0 := carry_eq_zero (htot ▸ hAA)
  apply value_inj B64 B64_pos _ _ (by rw [mulLimbs_length]; rfl)
    (by simpa using ⟨c0, c1, c2, c3, c4, c5, c6, c7⟩) (mulLimbs_lt B64 B64_pos _ _ hal hal)
  rw [mulLimbs_spec]
  simp only [value]
  linear_combination htot

theorem square_eq_mul (a m inv : Nat) : square a m inv = mul a a m inv := by
  have h := fun x => Nat.mod_lt x B64_pos
  rw [square_eq_montReduce, mul_eq_montReduce, limbs_eq,
    square_limbs_eq _ _ _ _ (h _) (h _) (h _) (h _)]

end Square

end U256

end Sm9
