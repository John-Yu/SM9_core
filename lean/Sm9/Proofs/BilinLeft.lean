import Sm9.Proofs.BilinLeftLines
/-!
`P1 + P2 = P3` in `E(Fq)`; `G` the line through `P1`, `P2`, `−P3`; `H(U) = (w³·G(ψU))^E` for twist points `U`
(`Sm9/Proofs/BilinLeftLines.lean`).  Every line `l_{T,S}` of the Miller loop satisfies
`l(P1)^E · l(P2)^E · H(T+S) = H(T) · H(S) · l(P3)^E` (`star_pt`); this telescopes along the binary chain
and the two Frobenius lines to `F1^E · F2^E · H(aQ+πQ−π²Q) = F3^E · H(Q)^a · H(πQ) · H(−π²Q)`, and the
correction factor is `1` because `π = [q]` on `G2`, `H∘π = H^q`, `H(−U) = H(U)⁻¹`, `r ∣ a + q − q² + q³`
(`specM_add_left`, on points).
-/
namespace Sm9
namespace Miller
open WeierstrassCurve

local notation "E" => ((q ^ 12 - 1) / r)

section telescoping
variable {F : Type} [Field F] [DecidableEq F] {K : Type} [CommRing K]
variable (W : Affine F) (ℓ1 ℓ2 ℓ3 : F → F → F → K) (H : W.Point → K) (e : ℕ)
  (hstar : ∀ T S : W.Point, T ≠ 0 → S ≠ 0 → T + S ≠ 0 →
    lineVal W ℓ1 T S ^ e * lineVal W ℓ2 T S ^ e * H (T + S) = H T * H S * lineVal W ℓ3 T S ^ e)
  (Q : W.Point) (hn : ∀ k, 0 < k → k < r → k • Q ≠ 0) (N : ℕ)

/-- invariant of the telescoping at the multiplier `m`: loops 1, 2 (`s12`) and 3 (`s3`) stand at `m • Q`, and
    `f₁^e · f₂^e · H(mQ) = f₃^e · H(Q)^m` -/
def Tel (m : ℕ) (s3 : W.Point × K) (s12 : (W.Point × K) × (W.Point × K)) : Prop :=
  s12.1.1 = m • Q ∧ s12.2.1 = m • Q ∧ s3.1 = m • Q ∧
    s12.1.2 ^ e * s12.2.2 ^ e * H (m • Q) = s3.2 ^ e * H Q ^ m

include hstar hn in
theorem step_tel (m : ℕ) (s3 : W.Point × K) (s12 : (W.Point × K) × (W.Point × K)) (i : ℕ) (hm : 0 < m)
    (hmr : 2 * m + 1 < r) (h : Tel W H e Q m s3 s12) :
    Tel W H e Q (2 * m + (if bit N i then 1 else 0)) (specStep W ℓ3 Q N s3 i)
      (specStep W ℓ1 Q N s12.1 i, specStep W ℓ2 Q N s12.2 i) := by
  obtain ⟨⟨T1, f1⟩, T2, f2⟩ := s12
  obtain ⟨T3, f3⟩ := s3
  obtain ⟨rfl, rfl, rfl, hinv⟩ := h
  refine ⟨specStep_point W ℓ1 Q N _ i m rfl, specStep_point W ℓ2 Q N _ i m rfl,
    specStep_point W ℓ3 Q N _ i m rfl, ?_⟩
  have hT : m • Q ≠ 0 := hn m hm (by omega)
  have h2 : m • Q + m • Q = (2 * m) • Q := by rw [mul_smul, two_smul]
  have hTT : m • Q + m • Q ≠ 0 := h2 ▸ hn (2 * m) (by omega) (by omega)
  have s1 := hstar (m • Q) (m • Q) hT hT hTT
  unfold specStep
  dsimp only at hinv ⊢
  by_cases hb : bit N i = true
  · have h3 : m • Q + m • Q + Q = (2 * m + 1) • Q := by rw [h2, add_smul, one_smul]
    have hQ0 : Q ≠ 0 := one_smul ℕ Q ▸ hn 1 Nat.one_pos (by omega)
    have s2 := hstar (m • Q + m • Q) Q hTT hQ0 (h3 ▸ hn (2 * m + 1) (by omega) hmr)
    simp only [if_pos hb, mul_pow]
    rw [← h3, pow_succ, pow_mul'] at *
    linear_combination
      (f1 ^ e * f1 ^ e * lineVal W ℓ1 (m • Q) (m • Q) ^ e * (f2 ^ e * f2 ^ e * lineVal W ℓ2 (m • Q) (m • Q) ^ e)) * s2
      + H Q * lineVal W ℓ3 (m • Q + m • Q) Q ^ e * ((f1 ^ e * f2 ^ e) ^ 2 * s1
      + lineVal W ℓ3 (m • Q) (m • Q) ^ e * (f1 ^ e * f2 ^ e * H (m • Q) + f3 ^ e * H Q ^ m) * hinv)
  · simp only [if_neg hb, add_zero, mul_pow]
    rw [← h2, pow_mul']
    linear_combination (f1 ^ e * f2 ^ e) ^ 2 * s1
      + lineVal W ℓ3 (m • Q) (m • Q) ^ e * (f1 ^ e * f2 ^ e * H (m • Q) + f3 ^ e * H Q ^ m) * hinv


include hstar hn in
theorem loop_tel (idx : List ℕ) (hok : chainOK N idx 1 = true) :
    Tel W H e Q (chainVal N idx 1) (specLoop W ℓ3 Q N idx) (specLoop W ℓ1 Q N idx, specLoop W ℓ2 Q N idx) := by
  have h := chain_sim _ (Tel W H e Q) (specStep W ℓ3 Q N)
    (fun s i => (specStep W ℓ1 Q N s.1 i, specStep W ℓ2 Q N s.2 i))
    (fun m s3 s12 i hm hmr h => step_tel W ℓ1 ℓ2 ℓ3 H e hstar Q hn N m s3 s12 i hm hmr h) idx 1 (Q, 1)
    ((Q, 1), (Q, 1)) (chainOK_eq N idx 1 ▸ hok)
    ⟨(one_smul _ _).symm, (one_smul _ _).symm, (one_smul _ _).symm, by
      simp only [one_smul, one_pow, one_mul, pow_one]⟩
  rwa [List.foldl_hom₂ idx Prod.mk (specStep W ℓ1 Q N) (specStep W ℓ2 Q N) _ _ _ (fun _ _ _ => rfl)] at h

include hstar in
theorem tail_tel (m : ℕ) (s3 : W.Point × K) (s12 : (W.Point × K) × (W.Point × K)) (Q1 Q2 : W.Point)
    (hT : m • Q ≠ 0) (hQ1 : Q1 ≠ 0) (hQ2 : Q2 ≠ 0) (h1 : m • Q + Q1 ≠ 0) (h2 : m • Q + Q1 + -Q2 ≠ 0)
    (h : Tel W H e Q m s3 s12) :
    specTail W ℓ1 Q1 Q2 s12.1 ^ e * specTail W ℓ2 Q1 Q2 s12.2 ^ e * H (m • Q + Q1 + -Q2)
      = specTail W ℓ3 Q1 Q2 s3 ^ e * (H Q ^ m * H Q1 * H (-Q2)) := by
  obtain ⟨⟨T1, f1⟩, T2, f2⟩ := s12
  obtain ⟨T3, f3⟩ := s3
  obtain ⟨rfl, rfl, rfl, hinv⟩ := h
  have s1 := hstar (m • Q) Q1 hT hQ1 h1
  have s2 := hstar (m • Q + Q1) (-Q2) h1 (neg_ne_zero.mpr hQ2) h2
  unfold specTail
  dsimp only at hinv ⊢
  simp only [mul_pow]
  linear_combination (f1 ^ e * lineVal W ℓ1 (m • Q) Q1 ^ e * (f2 ^ e * lineVal W ℓ2 (m • Q) Q1 ^ e)) * s2
    + (f1 ^ e * f2 ^ e * H (-Q2) * lineVal W ℓ3 (m • Q + Q1) (-Q2) ^ e) * s1
    + (H Q1 * lineVal W ℓ3 (m • Q) Q1 ^ e * H (-Q2) * lineVal W ℓ3 (m • Q + Q1) (-Q2) ^ e) * hinv

end telescoping

theorem specM_add_left {x1 y1 x2 y2 x3 y3 Γ D : Fq}
    (hd : LineData Fq12.ofFq b1 x1 y1 x2 y2 x3 y3 Γ D) (Q : (Jac.Wb b2).Point) (h0 : Q ≠ 0) (hG : InG2 Q) :
    specM (lineAt x3 y3) Q ^ E = specM (lineAt x1 y1) Q ^ E * specM (lineAt x2 y2) Q ^ E := by
  have hn : ∀ k, 0 < k → k < r → k • Q ≠ 0 := fun k hk hlt => nsmul_ne_zero_of_lt hG.1 h0 hk hlt
  obtain ⟨-, t2, -, t4⟩ := hG.tail h0
  have hstar := star_pt hd
  have hl := loop_tel (Jac.Wb b2) (lineAt x1 y1) (lineAt x2 y2) (lineAt x3 y3) (Hpt Γ D) E hstar Q hn
    Consts.SM9_LOOP_N loopIdx chainOK_loop
  rw [chainVal_loop] at hl
  have ht := tail_tel (Jac.Wb b2) (lineAt x1 y1) (lineAt x2 y2) (lineAt x3 y3) (Hpt Γ D) E hstar Q _ _ _
    (frobHom Q) (frobHom (frobHom Q)) (hn _ loopN_bounds.1 loopN_bounds.2) (frobHom_ne_zero h0)
    (frobHom_ne_zero (frobHom_ne_zero h0)) (fun h => t2 (eq_neg_of_add_eq_zero_left h))
    (fun h => t4 (add_neg_eq_zero.mp h)) hl
  rw [hG.rate_point] at ht
  -- the correction `H(Q)^a · H(πQ) · H(−π²Q) / H(−π³Q)`, with `H∘π = H^q`, `H(−U)·H(U) = 1`, `H(Q)^r = 1`
  have m2 := Hpt_neg hd (frobHom (frobHom Q))
  have m3 := Hpt_neg hd (frobHom (frobHom (frobHom Q)))
  rw [Hpt_frob, Hpt_frob, ← pow_mul] at m2
  rw [Hpt_frob, Hpt_frob, Hpt_frob, ← pow_mul, ← pow_mul, ← mul_assoc] at m3
  rw [Hpt_frob, ← mul_assoc, ← mul_assoc] at ht
  exact rate_correction _ _ _ (Hpt Γ D Q) _ _ (Hpt_pow_r Γ D Q) ht m2 m3

end Miller
end Sm9
