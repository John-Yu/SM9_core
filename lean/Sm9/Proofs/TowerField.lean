import Sm9.Proofs.Pow
import Sm9.Proofs.Consts
import Mathlib.FieldTheory.Finite.Basic
/-!
# The tower Fq2 / Fq4 / Fq12 is a tower of fields, and the model's `inverse` is correct

Bottom-up: `-2` is not a square in `Fq` (one kernel evaluation of `(-2)^((q-1)/2)` plus
Fermat), hence the norm `a² + 2b²` of a non-zero `Fq2` element is non-zero, hence
`Fq2.inverse` is a two-sided inverse and `Fq2` is a field with `q²` elements.  Then `u` is not a
square in `Fq2` (`u^((q²-1)/2) = -1` + Lagrange), giving `Fq4`; then `v` is not a cube in `Fq4`
(`v^((q⁴-1)/3) ≠ 1`), giving `Fq12`.  Both powers are powers of `u² = v⁴ = -2`, evaluated in `Fq`.
-/
namespace Sm9

/-- the norm form `a² − β b²` of `K[X]/(X² − β)` is anisotropic when `β` is not a square -/
theorem eq_zero_of_sq_eq_mul_sq {K : Type} [Field K] {β : K} (hβ : ∀ s : K, s ^ 2 ≠ β) {a b : K} (h : a ^ 2 = β * b ^ 2) :
    a = 0 ∧ b = 0 := by
  by_cases hb : b = 0
  · rw [hb, zero_pow two_ne_zero, mul_zero] at h
    exact ⟨pow_eq_zero_iff two_ne_zero |>.1 h, hb⟩
  · exact absurd (by rw [div_pow, h, mul_div_assoc, div_self (pow_ne_zero 2 hb), mul_one]) (hβ (a / b))

theorem Fq.inverse_ite (x : Fq) : x.inverse = if x = 0 then none else some x⁻¹ := by
  split_ifs with h
  · rw [h]; exact Fq.inverse_zero
  · exact Fq.inverse_eq_inv x h

theorem Fq.nr_eq : nr = -(1 + 1) := by decide +kernel
theorem Fq.nr_pow_half : nr.pow ((q - 1) / 2) = -1 := by decide +kernel
theorem Fq.nr_ne_zero : nr ≠ 0 := by decide +kernel
theorem Fq.q_sub_one_half : 2 * ((q - 1) / 2) = q - 1 := by decide +kernel

/-- `-2` is not a square in `Fq` -/
theorem Fq.neg_two_not_sq (s : Fq) : s ^ 2 ≠ nr :=
  not_pow_of_pow_div_ne_one Fq.fermat Fq.q_sub_one_half _root_.two_ne_zero Fq.nr_ne_zero
    (by rw [← Fq.pow_eq, Fq.nr_pow_half]; exact Fq.one_ne_neg_one.symm) s

namespace Fq2

theorem norm_ne_zero (x : Fq2) (h : x ≠ 0) : x.c0.squared + x.c1.squared.double ≠ 0 := fun h0 =>
  have e := eq_zero_of_sq_eq_mul_sq Fq.neg_two_not_sq (a := x.c0) (b := x.c1) (by
    rw [Fq.nr_eq, pow_two, ← Fq.squared_def, eq_neg_of_add_eq_zero_left h0, Fq.double_def, Fq.squared_def]; ring)
  h (Fq2.ext e.1 e.2)

theorem inverse_zero : (0 : Fq2).inverse = none := by decide +kernel

theorem inverse_correct (x : Fq2) (h : x ≠ 0) : ∃ y, x.inverse = some y ∧ y * x = 1 := by
  have hn := norm_ne_zero x h
  unfold inverse
  rw [Fq.inverse_eq _ hn]
  refine ⟨_, rfl, ?_⟩
  have key := Fq.pow_sub_two_mul _ hn
  generalize (x.c0.squared + x.c1.squared.double) ^ (q - 2) = t at key
  simp only [Fq.squared_def, Fq.double_def] at key
  ext
  · simp only [mul_c0, new, one_c0]
    rw [← key]; ring
  · simp only [mul_c1, new, one_c1]
    ring

theorem isField : IsField Fq2 :=
  isField_of_left_inverse (by decide +kernel) fun a ha => (inverse_correct a ha).imp fun _ h => h.2

noncomputable instance instField : Field Fq2 := isField.toField

theorem inverse_eq_inv (x : Fq2) (h : x ≠ 0) : x.inverse = some x⁻¹ := by
  obtain ⟨y, h1, h2⟩ := inverse_correct x h
  rw [h1, eq_inv_of_mul_eq_one_left h2]

theorem inverse_ite (x : Fq2) : x.inverse = if x = 0 then none else some x⁻¹ := by
  split_ifs with h
  · rw [h]; exact inverse_zero
  · exact inverse_eq_inv x h

def equivProd : Fq2 ≃ Fq × Fq where
  toFun x := (x.c0, x.c1)
  invFun p := ⟨p.1, p.2⟩
  left_inv x := by cases x; rfl
  right_inv p := by cases p; rfl

instance : Fintype Fq := inferInstanceAs (Fintype (Fin q))
theorem _root_.Sm9.Fq.card : Fintype.card Fq = q := Fintype.card_fin q

instance : Fintype Fq2 := Fintype.ofEquiv _ equivProd.symm
theorem card : Fintype.card Fq2 = q ^ 2 := by
  rw [Fintype.card_congr equivProd, Fintype.card_prod, Fq.card, pow_two]

theorem pow_card_sub_one (x : Fq2) (h : x ≠ 0) : x ^ (q ^ 2 - 1) = 1 := by
  rw [← card]; exact FiniteField.pow_card_sub_one_eq_one x h

theorem pow_eq (g : Fq2) (e : Nat) : FieldElement.pow g e = g ^ e :=
  powFold_bitsMSB Fq2.squared Fq2.squared_eq_mul g e

theorem real_pow (a : Fq) (n : ℕ) : (⟨a, 0⟩ : Fq2) ^ n = ⟨a ^ n, 0⟩ := by
  induction n with
  | zero => rfl
  | succ n ih => rw [pow_succ, ih, pow_succ]; ext <;> simp

theorem i_pow_two_mul (n : ℕ) : Fq2.i ^ (2 * n) = ⟨nr ^ n, 0⟩ := by
  rw [pow_mul, show Fq2.i ^ 2 = ⟨nr, 0⟩ by decide +kernel, real_pow]

theorem i_pow_half : FieldElement.pow Fq2.i ((q ^ 2 - 1) / 2) = -1 := by
  have hE : (q ^ 2 - 1) / 2 = 2 * ((q ^ 2 - 1) / 4) := by decide +kernel
  have hc : nr ^ ((q ^ 2 - 1) / 4) = -1 := by rw [← Fq.pow_eq]; decide +kernel
  rw [pow_eq, hE, i_pow_two_mul, hc]
  rfl

theorem one_ne_neg_one : (1 : Fq2) ≠ -1 := by decide +kernel
theorem i_ne_zero : Fq2.i ≠ 0 := by decide +kernel
theorem card_sub_one_half : 2 * ((q ^ 2 - 1) / 2) = q ^ 2 - 1 := by decide +kernel

theorem i_not_sq (s : Fq2) : s * s ≠ Fq2.i := by
  rw [← pow_two]
  exact not_pow_of_pow_div_ne_one pow_card_sub_one card_sub_one_half two_ne_zero i_ne_zero
    (by rw [← pow_eq, i_pow_half]; exact one_ne_neg_one.symm) s

end Fq2

namespace Fq4

theorem norm_ne_zero (x : Fq4) (h : x ≠ 0) :
    x.c0.squared - x.c1.squared.mul_by_nonresidue ≠ 0 := fun h0 =>
  have e := eq_zero_of_sq_eq_mul_sq (fun s => pow_two s ▸ Fq2.i_not_sq s) (a := x.c0) (b := x.c1) (by
    rw [Fq2.squared_eq_mul, Fq2.squared_eq_mul, Fq2.mul_by_nonresidue_eq] at h0
    rw [pow_two, sub_eq_zero.1 h0]; ring)
  h (Fq4.ext e.1 e.2)

theorem inverse_zero : (0 : Fq4).inverse = none := by decide +kernel

theorem inverse_correct (x : Fq4) (h : x ≠ 0) : ∃ y, x.inverse = some y ∧ y * x = 1 := by
  have hn := norm_ne_zero x h
  unfold inverse
  rw [Fq2.inverse_eq_inv _ hn]
  refine ⟨_, rfl, ?_⟩
  have key := inv_mul_cancel₀ hn
  generalize (x.c0.squared - x.c1.squared.mul_by_nonresidue)⁻¹ = t at key
  rw [Fq2.squared_eq_mul, Fq2.squared_eq_mul, Fq2.mul_by_nonresidue_eq] at key
  ext : 1
  · simp only [mul_c0, new, one_c0]
    rw [← key]; ring
  · simp only [mul_c1, new, one_c1]
    ring

theorem isField : IsField Fq4 :=
  isField_of_left_inverse (by decide +kernel) fun a ha => (inverse_correct a ha).imp fun _ h => h.2

noncomputable instance instField : Field Fq4 := isField.toField

theorem inverse_eq_inv (x : Fq4) (h : x ≠ 0) : x.inverse = some x⁻¹ := by
  obtain ⟨y, h1, h2⟩ := inverse_correct x h
  rw [h1, eq_inv_of_mul_eq_one_left h2]

def equivProd : Fq4 ≃ Fq2 × Fq2 where
  toFun x := (x.c0, x.c1)
  invFun p := ⟨p.1, p.2⟩
  left_inv x := by cases x; rfl
  right_inv p := by cases p; rfl

instance : Fintype Fq4 := Fintype.ofEquiv _ equivProd.symm
theorem card : Fintype.card Fq4 = q ^ 4 := by
  rw [Fintype.card_congr equivProd, Fintype.card_prod, Fq2.card]; ring

theorem pow_card_sub_one (x : Fq4) (h : x ≠ 0) : x ^ (q ^ 4 - 1) = 1 := by
  rw [← card]; exact FiniteField.pow_card_sub_one_eq_one x h

theorem pow_eq (g : Fq4) (e : Nat) : FieldElement.pow g e = g ^ e :=
  powFold_bitsMSB Fq4.squared Fq4.squared_eq_mul g e

theorem real_pow (a : Fq) (n : ℕ) : (⟨⟨a, 0⟩, 0⟩ : Fq4) ^ n = ⟨⟨a ^ n, 0⟩, 0⟩ := by
  induction n with
  | zero => rfl
  | succ n ih => rw [pow_succ, ih, pow_succ]; ext <;> simp

theorem v_pow_four_mul (n : ℕ) : v ^ (4 * n) = ⟨⟨nr ^ n, 0⟩, 0⟩ := by
  rw [pow_mul, show v ^ 4 = ⟨⟨nr, 0⟩, 0⟩ by decide +kernel, real_pow]

theorem v_pow_third : FieldElement.pow Fq4.v ((q ^ 4 - 1) / 3) ≠ 1 := by
  have hE : (q ^ 4 - 1) / 3 = 4 * ((q ^ 4 - 1) / 12) := by decide +kernel
  have hc : nr ^ ((q ^ 4 - 1) / 12) ≠ 1 := by rw [← Fq.pow_eq]; decide +kernel
  rw [pow_eq, hE, v_pow_four_mul]
  generalize nr ^ ((q ^ 4 - 1) / 12) = c at hc
  exact fun h => hc (congrArg (fun x : Fq4 => x.c0.c0) h)

theorem v_ne_zero : Fq4.v ≠ 0 := by decide +kernel
theorem card_sub_one_third : 3 * ((q ^ 4 - 1) / 3) = q ^ 4 - 1 := by decide +kernel

theorem v_not_cube (s : Fq4) : s ^ 3 ≠ Fq4.v :=
  not_pow_of_pow_div_ne_one pow_card_sub_one card_sub_one_third three_ne_zero v_ne_zero
    (by rw [← pow_eq]; exact v_pow_third) s

/-- the norm form `c0³ + v c1³ + v² c2³ − 3 v c0 c1 c2` of `Fq12` over `Fq4` is anisotropic -/
theorem norm12_eq_zero (a b c : Fq4)
    (h : (c * (c * c * v - a * b) + b * (b * b - a * c)) * v + a * (a * a - b * (c * v)) = 0) :
    a = 0 ∧ b = 0 ∧ c = 0 := by
  -- C1³ = v C2³ with C1 = v c² − a b, C2 = b² − a c
  have hid : (c * c * v - a * b) ^ 3 - v * (b * b - a * c) ^ 3
      = (v * c ^ 3 - b ^ 3)
        * ((c * (c * c * v - a * b) + b * (b * b - a * c)) * v + a * (a * a - b * (c * v))) := by
    ring
  rw [h, mul_zero] at hid
  have hC2 : b * b - a * c = 0 := by
    by_contra hne
    apply v_not_cube ((c * c * v - a * b) * (b * b - a * c)⁻¹)
    rw [mul_pow, sub_eq_zero.1 hid, mul_assoc, ← mul_pow, mul_inv_cancel₀ hne, one_pow, mul_one]
  rw [hC2] at hid
  have hC1 : c * c * v - a * b = 0 := by
    have : (c * c * v - a * b) ^ 3 = 0 := by rw [sub_eq_zero.1 hid]; ring
    exact pow_eq_zero_iff (by norm_num) |>.1 this
  have hc : c = 0 := by
    by_contra hne
    apply v_not_cube (b * c⁻¹)
    have e1 : b * b = a * c := sub_eq_zero.1 hC2
    have e2 : c * c * v = a * b := sub_eq_zero.1 hC1
    have e3 : b ^ 3 = v * c ^ 3 := by
      calc b ^ 3 = b * b * b := by ring
        _ = c * (a * b) := by rw [e1]; ring
        _ = v * c ^ 3 := by rw [← e2]; ring
    rw [mul_pow, e3, mul_assoc, ← mul_pow, mul_inv_cancel₀ hne, one_pow, mul_one]
  subst hc
  have hb : b = 0 := by
    simp only [mul_zero, sub_zero] at hC2
    exact mul_self_eq_zero.1 hC2
  subst hb
  simp only [mul_zero, zero_mul, sub_zero, add_zero, zero_add] at h
  have ha : a = 0 := by
    have : a ^ 3 = 0 := by rw [← h]; ring
    exact pow_eq_zero_iff (by norm_num) |>.1 this
  exact ⟨ha, rfl, rfl⟩

end Fq4

namespace Fq12

theorem norm_ne_zero (x : Fq12) (h : x ≠ 0) :
    ((x.c2 * (x.c2.squared.mul_by_nonresidue - x.c0 * x.c1)
        + x.c1 * (x.c1.squared - x.c0 * x.c2)).mul_by_nonresidue
      + x.c0 * (x.c0.squared - x.c1 * x.c2.mul_by_nonresidue)) ≠ 0 := by
  intro h0
  simp only [Fq4.squared_eq_mul, Fq4.mul_by_nonresidue_eq] at h0
  have e := Fq4.norm12_eq_zero _ _ _ h0
  exact h (Fq12.ext e.1 e.2.1 e.2.2)

theorem inverse_zero : (0 : Fq12).inverse = none := by decide +kernel

theorem inverse_correct (x : Fq12) (h : x ≠ 0) : ∃ y, x.inverse = some y ∧ y * x = 1 := by
  have hn := norm_ne_zero x h
  unfold inverse
  simp only
  rw [Fq4.inverse_eq_inv _ hn]
  refine ⟨_, rfl, ?_⟩
  have key := inv_mul_cancel₀ hn
  generalize ((x.c2 * (x.c2.squared.mul_by_nonresidue - x.c0 * x.c1)
        + x.c1 * (x.c1.squared - x.c0 * x.c2)).mul_by_nonresidue
      + x.c0 * (x.c0.squared - x.c1 * x.c2.mul_by_nonresidue))⁻¹ = t at key
  simp only [Fq4.squared_eq_mul, Fq4.mul_by_nonresidue_eq] at key ⊢
  ext : 1
  · simp only [mul_c0, new, one_c0]
    rw [← key]; ring
  · simp only [mul_c1, new, one_c1]
    ring
  · simp only [mul_c2, new, one_c2]
    ring

theorem isField : IsField Fq12 :=
  isField_of_left_inverse (by decide +kernel) fun a ha => (inverse_correct a ha).imp fun _ h => h.2

noncomputable instance instField : Field Fq12 := isField.toField

theorem inverse_eq_inv (x : Fq12) (h : x ≠ 0) : x.inverse = some x⁻¹ := by
  obtain ⟨y, h1, h2⟩ := inverse_correct x h
  rw [h1, eq_inv_of_mul_eq_one_left h2]

def equivProd : Fq12 ≃ Fq4 × Fq4 × Fq4 where
  toFun x := (x.c0, x.c1, x.c2)
  invFun p := ⟨p.1, p.2.1, p.2.2⟩
  left_inv x := by cases x; rfl
  right_inv p := by obtain ⟨a, b, c⟩ := p; rfl

instance : Fintype Fq12 := Fintype.ofEquiv _ equivProd.symm
theorem card : Fintype.card Fq12 = q ^ 12 := by
  rw [Fintype.card_congr equivProd, Fintype.card_prod, Fintype.card_prod, Fq4.card]; ring

theorem pow_card_sub_one (x : Fq12) (h : x ≠ 0) : x ^ (q ^ 12 - 1) = 1 := by
  rw [← card]; exact FiniteField.pow_card_sub_one_eq_one x h

end Fq12

example : ∃ x : Fq12, x ≠ 0 := ⟨1, one_ne_zero⟩

end Sm9
