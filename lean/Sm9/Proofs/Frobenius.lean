import Sm9.Proofs.TowerField
/-!
# The coded Frobenius maps are the `q^k`-power maps

`Fq12 = Fq[w]/(w¹² + 2)` with `u = w⁶`, `v = w³`.  Every element is `Σ ι(eᵢ) wⁱ` (`decomp`); the basis `w`, the
embeddings `ofFq`, `ofFq2` and the decompositions `decomp`, `decomp_ofFq2` are what the Miller and oracle files build on.
In characteristic `q` the map `x ↦ x^(q^k)` is a ring homomorphism fixing `ι(Fq)` and sending
`w ↦ ι(α₁ᵏ) w`, where `α₁ = (−2)^((q−1)/12)` is the coded constant (`alpha1_eq`), because
`w^q = (w¹²)^((q−1)/12) · w`.  Hence `x^(q^k) = twist (α₁ᵏ) x`, and the coded arm `frob1`, `frob2`, `frob3`, `frob6` is
`twist (α₁ᵏ)` by the powers of the coded constants, checked in the kernel (`consts1`, `consts2`, `consts3`).
Terms `x ^ q ^ k` are rewritten with these lemmas and never compared by `rfl`, `congr` or `decide`: unification evaluates the exponent.
-/
namespace Sm9

instance : CharP Fq q := Fin.charP q

namespace Fq12

def ofFq : Fq →+* Fq12 where
  toFun a := ⟨⟨⟨a, 0⟩, 0⟩, 0, 0⟩
  map_one' := rfl
  map_zero' := rfl
  map_mul' := by intros; ext <;> simp
  map_add' := by intros; ext <;> simp

/-- the generator `w` with `w³ = v` -/
def w : Fq12 := ⟨0, 1, 0⟩

theorem ofFq_apply (a : Fq) : ofFq a = ⟨⟨⟨a, 0⟩, 0⟩, 0, 0⟩ := rfl

theorem ofFq_injective : Function.Injective ofFq := by
  intro a b h
  have := congrArg (fun x : Fq12 => x.c0.c0.c0) h
  exact this

instance : CharP Fq12 q := charP_of_injective_ringHom ofFq_injective q

theorem w_ne_zero : w ≠ 0 := by decide +kernel
theorem w_pow2 : w ^ 2 = ⟨0, 0, 1⟩ := by decide +kernel
theorem w_pow3 : w ^ 3 = ⟨⟨0, 1⟩, 0, 0⟩ := by rw [pow_succ, w_pow2]; decide +kernel
theorem w_pow4 : w ^ 4 = ⟨0, ⟨0, 1⟩, 0⟩ := by rw [pow_succ, w_pow3]; decide +kernel
theorem w_pow5 : w ^ 5 = ⟨0, 0, ⟨0, 1⟩⟩ := by rw [pow_succ, w_pow4]; decide +kernel
theorem w_pow6 : w ^ 6 = ⟨⟨⟨0, 1⟩, 0⟩, 0, 0⟩ := by rw [pow_succ, w_pow5]; decide +kernel
theorem w_pow7 : w ^ 7 = ⟨0, ⟨⟨0, 1⟩, 0⟩, 0⟩ := by rw [pow_succ, w_pow6]; decide +kernel
theorem w_pow8 : w ^ 8 = ⟨0, 0, ⟨⟨0, 1⟩, 0⟩⟩ := by rw [pow_succ, w_pow7]; decide +kernel
theorem w_pow9 : w ^ 9 = ⟨⟨0, ⟨0, 1⟩⟩, 0, 0⟩ := by rw [pow_succ, w_pow8]; decide +kernel
theorem w_pow10 : w ^ 10 = ⟨0, ⟨0, ⟨0, 1⟩⟩, 0⟩ := by rw [pow_succ, w_pow9]; decide +kernel
theorem w_pow11 : w ^ 11 = ⟨0, 0, ⟨0, ⟨0, 1⟩⟩⟩ := by rw [pow_succ, w_pow10]; decide +kernel
theorem w_pow12 : w ^ 12 = ofFq nr := by rw [pow_succ, w_pow11]; decide +kernel

/-- coordinates with respect to the basis `1, w, …, w¹¹` -/
theorem decomp (x : Fq12) :
    x = ofFq x.c0.c0.c0 + ofFq x.c1.c0.c0 * w + ofFq x.c2.c0.c0 * w ^ 2
      + ofFq x.c0.c1.c0 * w ^ 3 + ofFq x.c1.c1.c0 * w ^ 4 + ofFq x.c2.c1.c0 * w ^ 5
      + ofFq x.c0.c0.c1 * w ^ 6 + ofFq x.c1.c0.c1 * w ^ 7 + ofFq x.c2.c0.c1 * w ^ 8
      + ofFq x.c0.c1.c1 * w ^ 9 + ofFq x.c1.c1.c1 * w ^ 10 + ofFq x.c2.c1.c1 * w ^ 11 := by
  rw [w_pow2, w_pow3, w_pow4, w_pow5, w_pow6, w_pow7, w_pow8, w_pow9, w_pow10, w_pow11]
  ext <;> simp [ofFq_apply, w, Fq4.v]

def ofFq2 : Fq2 →+* Fq12 where
  toFun a := ⟨⟨a, 0⟩, 0, 0⟩
  map_one' := rfl
  map_zero' := rfl
  map_mul' := by intros; ext : 2 <;> simp
  map_add' := by intros; ext : 2 <;> simp

theorem ofFq2_apply (a : Fq2) : ofFq2 a = ⟨⟨a, 0⟩, 0, 0⟩ := rfl

theorem ofFq2_injective : Function.Injective ofFq2 := by
  intro a b h
  have := congrArg (fun x : Fq12 => x.c0.c0) h
  exact this

theorem ofFq2_ne_zero {a : Fq2} (h : a ≠ 0) : ofFq2 a ≠ 0 := by
  intro h0; apply h; apply ofFq2_injective; rw [h0, map_zero]

theorem ofFq2_mul_sparse (k a b d : Fq2) :
    ofFq2 k * ⟨⟨a, b⟩, 0, ⟨0, d⟩⟩ = ⟨⟨k * a, k * b⟩, 0, ⟨0, k * d⟩⟩ := by
  ext : 2 <;> simp [ofFq2_apply]

/-- coordinates over `Fq2` with respect to the basis `1, w, …, w⁵` -/
theorem decomp_ofFq2 (x : Fq12) :
    x = ofFq2 x.c0.c0 + ofFq2 x.c1.c0 * w + ofFq2 x.c2.c0 * w ^ 2
      + ofFq2 x.c0.c1 * w ^ 3 + ofFq2 x.c1.c1 * w ^ 4 + ofFq2 x.c2.c1 * w ^ 5 := by
  rw [w_pow2, w_pow3, w_pow4, w_pow5]
  ext : 2 <;> simp [ofFq2_apply, w, Fq4.v]

theorem w_pow6_eq : w ^ 6 = ofFq2 Fq2.i := w_pow6

theorem ofFq_eq_ofFq2 (a : Fq) : ofFq a = ofFq2 (Fq2.new a 0) := rfl

/-- the `Fq`-linear map multiplying the coefficient of `wⁱ` by `cⁱ` -/
noncomputable def twist (c : Fq) (x : Fq12) : Fq12 :=
  ⟨⟨⟨x.c0.c0.c0, x.c0.c0.c1 * c ^ 6⟩, ⟨x.c0.c1.c0 * c ^ 3, x.c0.c1.c1 * c ^ 9⟩⟩,
   ⟨⟨x.c1.c0.c0 * c, x.c1.c0.c1 * c ^ 7⟩, ⟨x.c1.c1.c0 * c ^ 4, x.c1.c1.c1 * c ^ 10⟩⟩,
   ⟨⟨x.c2.c0.c0 * c ^ 2, x.c2.c0.c1 * c ^ 8⟩, ⟨x.c2.c1.c0 * c ^ 5, x.c2.c1.c1 * c ^ 11⟩⟩⟩

theorem ofFq_pow (a : Fq) (n : Nat) : ofFq (a ^ n) = ofFq a ^ n := map_pow ofFq a n

theorem ringHom_eq_twist (φ : Fq12 →+* Fq12) (c : Fq) (hι : ∀ a, φ (ofFq a) = ofFq a)
    (hw : φ w = ofFq c * w) (x : Fq12) : φ x = twist c x := by
  conv_lhs => rw [decomp x]
  rw [decomp (twist c x)]
  simp only [map_add, map_mul, map_pow, hι, hw, twist, mul_pow, map_mul ofFq]
  ring

end Fq12

theorem Fq.pow_q_pow (a : Fq) (k : Nat) : a ^ q ^ k = a := by
  have := FiniteField.pow_card_pow k a
  rwa [Fq.card] at this

namespace Fq12

theorem w_pow_q : w ^ q = ofFq Fq4.alpha1 * w := by
  conv_lhs => rw [show q = 12 * ((q - 1) / 12) + 1 by decide +kernel]
  rw [pow_succ, pow_mul, w_pow12, ← map_pow, ← Fq.pow_eq, show (q - 1) / 12 = (Consts.FQ - 1) / 12 from rfl,
    ← alpha1_eq]

theorem w_pow_q_pow (k : Nat) : w ^ q ^ k = ofFq (Fq4.alpha1 ^ k) * w := by
  induction k with
  | zero => simp
  | succ k ih =>
    rw [pow_succ, pow_mul, ih, mul_pow, w_pow_q, ← map_pow]
    have h : (Fq4.alpha1 ^ k) ^ q = Fq4.alpha1 ^ k := by
      simpa using Fq.pow_q_pow (Fq4.alpha1 ^ k) 1
    rw [h, ← mul_assoc, ← map_mul, pow_succ]

theorem pow_q_pow_eq_twist (x : Fq12) (k : Nat) : x ^ q ^ k = twist (Fq4.alpha1 ^ k) x := by
  have h := ringHom_eq_twist (iterateFrobenius Fq12 q k) (Fq4.alpha1 ^ k)
    (fun a => by rw [iterateFrobenius_def, ← map_pow, Fq.pow_q_pow])
    (by rw [iterateFrobenius_def, w_pow_q_pow]) x
  rwa [iterateFrobenius_def] at h

theorem consts1 :
    Fq4.alpha1 ^ 2 = Fq4.alpha2 ∧ Fq4.alpha1 ^ 3 = Fq4.alpha3 ∧ Fq4.alpha1 ^ 4 = Fq4.alpha4 ∧
    Fq4.alpha1 ^ 5 = Fq4.alpha5 ∧ Fq4.alpha1 ^ 6 = -1 ∧ Fq4.alpha1 ^ 7 = -Fq4.alpha1 ∧
    Fq4.alpha1 ^ 8 = -Fq4.alpha2 ∧ Fq4.alpha1 ^ 9 = -Fq4.alpha3 ∧ Fq4.alpha1 ^ 10 = -Fq4.alpha4 ∧
    Fq4.alpha1 ^ 11 = -Fq4.alpha5 := by decide +kernel

theorem consts2 :
    Fq4.alpha1 ^ 2 = Fq4.alpha2 ∧
    Fq4.alpha2 ^ 2 = Fq4.alpha4 ∧ Fq4.alpha2 ^ 3 = -1 ∧ Fq4.alpha2 ^ 4 = -Fq4.alpha2 ∧
    Fq4.alpha2 ^ 5 = -Fq4.alpha4 ∧ Fq4.alpha2 ^ 6 = 1 ∧ Fq4.alpha2 ^ 7 = Fq4.alpha2 ∧
    Fq4.alpha2 ^ 8 = Fq4.alpha4 ∧ Fq4.alpha2 ^ 9 = -1 ∧ Fq4.alpha2 ^ 10 = -Fq4.alpha2 ∧
    Fq4.alpha2 ^ 11 = -Fq4.alpha4 := by decide +kernel

theorem consts3 :
    Fq4.alpha1 ^ 3 = Fq4.beta ∧
    Fq4.beta ^ 2 = -1 ∧ Fq4.beta ^ 3 = -Fq4.beta ∧ Fq4.beta ^ 4 = 1 ∧
    Fq4.beta ^ 5 = Fq4.beta ∧ Fq4.beta ^ 6 = -1 ∧ Fq4.beta ^ 7 = -Fq4.beta ∧
    Fq4.beta ^ 8 = 1 ∧ Fq4.beta ^ 9 = Fq4.beta ∧ Fq4.beta ^ 10 = -1 ∧
    Fq4.beta ^ 11 = -Fq4.beta := by decide +kernel

theorem consts6 : Fq4.alpha1 ^ 6 = -1 := consts1.2.2.2.2.1

theorem frob1_eq_twist (x : Fq12) : x.frob1 = twist (Fq4.alpha1 ^ 1) x := by
  rw [pow_one]
  ext <;> simp only [frob1, Fq4.frob10, Fq4.frob11, Fq4.frob12, Fq2.unitary_inverse, Fq2.scale, twist,
    consts1] <;> ring

theorem frob2_eq_twist (x : Fq12) : x.frob2 = twist (Fq4.alpha1 ^ 2) x := by
  rw [consts2.1]
  ext <;> simp only [frob2, Fq4.frob21, Fq4.frob22, Fq4.unitary_inverse, Fq4.scale_fq, Fq2.scale, twist,
    consts2, Fq2.neg_c0, Fq2.neg_c1] <;> ring

theorem frob30_eq (a : Fq4) :
    a.frob30 = ⟨a.c0.unitary_inverse, -(a.c1.unitary_inverse.scale Fq4.beta)⟩ := by
  rw [Fq2.scale_eq]; rfl
theorem frob31_eq (a : Fq4) :
    a.frob31 = ⟨a.c0.unitary_inverse.scale Fq4.beta, a.c1.unitary_inverse⟩ := by
  rw [Fq2.scale_eq]; rfl
theorem frob32_eq (a : Fq4) :
    a.frob32 = ⟨-a.c0.unitary_inverse, a.c1.unitary_inverse.scale Fq4.beta⟩ := by
  rw [Fq2.scale_eq]; rfl

theorem frob3_eq_twist (x : Fq12) : x.frob3 = twist (Fq4.alpha1 ^ 3) x := by
  rw [consts3.1]
  ext <;> simp only [frob3, frob30_eq, frob31_eq, frob32_eq, Fq2.unitary_inverse, Fq2.scale, twist,
    consts3, Fq2.neg_c0, Fq2.neg_c1] <;> ring

theorem frob6_eq_twist (x : Fq12) : x.frob6 = twist (Fq4.alpha1 ^ 6) x := by
  rw [consts6]
  ext <;> simp only [frob6, Fq4.unitary_inverse, twist, Fq4.neg_c0, Fq4.neg_c1, Fq2.neg_c0, Fq2.neg_c1] <;> ring

theorem frob1_eq_pow (x : Fq12) : x.frob1 = x ^ q := by
  rw [frob1_eq_twist, ← pow_q_pow_eq_twist, pow_one]
theorem frob2_eq_pow (x : Fq12) : x.frob2 = x ^ q ^ 2 := by
  rw [frob2_eq_twist, ← pow_q_pow_eq_twist]
theorem frob3_eq_pow (x : Fq12) : x.frob3 = x ^ q ^ 3 := by
  rw [frob3_eq_twist, ← pow_q_pow_eq_twist]
theorem frob6_eq_pow (x : Fq12) : x.frob6 = x ^ q ^ 6 := by
  rw [frob6_eq_twist, ← pow_q_pow_eq_twist]

theorem frobenius_map_eq_pow (x : Fq12) (k : Nat) (hk : k = 1 ∨ k = 2 ∨ k = 3 ∨ k = 6) :
    x.frobenius_map k = .ok (x ^ q ^ k) := by
  rcases hk with rfl | rfl | rfl | rfl
  · simp only [frobenius_map, frob1_eq_pow, pow_one]
  · simp only [frobenius_map, frob2_eq_pow]
  · simp only [frobenius_map, frob3_eq_pow]
  · simp only [frobenius_map, frob6_eq_pow]

end Fq12

end Sm9
