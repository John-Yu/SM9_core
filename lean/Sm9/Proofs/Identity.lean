import Sm9.Proofs.FinalExp
import Sm9.Model.Api
/-!
# Identity inputs short-circuit to one in every pairing entry point

`pairing` returns one as soon as an operand has no affine form.  On the prepared path an identity
operand makes the Miller loop return one, and the final exponentiation sends one to one because it is
a power map (`Fq12.final_exp_eq_pow`).
-/
namespace Sm9

theorem G1.to_affine_none_of_z (p : G1) (h : p.z = 0) : p.to_affine = none :=
  if_pos ((Fq.is_zero_iff p.z).2 h)

theorem G2.to_affine_none_of_z (p : G2) (h : p.z = Fq2.zero) : p.to_affine = none :=
  if_pos ((Fq2.is_zero_iff p.z).2 h)

theorem normalize_of_none {F} [FieldElement F] (p : G F) (h : p.to_affine = none) : Api.normalize p = p := by
  unfold Api.normalize; rw [h]

theorem final_exp_one : Fq12.one.final_exp = .ok (some Fq12.one) :=
  (Fq12.final_exp_eq_pow 1 one_ne_zero).trans (by rw [one_pow]; rfl)
theorem final_exponentiation_one : Fq12.one.final_exponentiation = .ok (some Fq12.one) :=
  (Fq12.final_exponentiation_eq_pow 1 one_ne_zero).trans (by rw [one_pow]; rfl)

theorem pairing_left_identity (p : G1) (qv : G2) (h : p.z = 0) : Api.pairing p qv = .ok Fq12.one := by
  unfold Api.pairing Pairings.pairing
  rw [G1.to_affine_none_of_z p h]

theorem pairing_right_identity (p : G1) (qv : G2) (h : qv.z = Fq2.zero) : Api.pairing p qv = .ok Fq12.one := by
  unfold Api.pairing Pairings.pairing
  rw [G2.to_affine_none_of_z qv h]
  cases p.to_affine <;> rfl

theorem G2m.q_power_frobenius_some (a : G2) {f : Fq2} (hf : f ≠ 0) : ∃ b, G2m.q_power_frobenius a f = some b := by
  unfold G2m.q_power_frobenius
  rw [Fq2.inverse_eq_inv f hf]
  exact ⟨_, rfl⟩

/-- `G2Prepared::from` never panics, for any input whatsoever: its two `unwrap`s are on `q_power_frobenius` with the
    constant (π₁, 0) -/
theorem prepTail_ok (g2 : G2) (st : G2 × List (Fq2 × Fq2 × Fq2)) : ∃ pr, G2Prepared.prepTail g2 st = .ok pr := by
  unfold G2Prepared.prepTail
  have hπ : Fq2.new pi1 0 ≠ 0 := by decide +kernel
  obtain ⟨ka, hka⟩ := G2m.q_power_frobenius_some g2 hπ
  obtain ⟨ka2, hka2⟩ := G2m.q_power_frobenius_some ka hπ
  rw [hka]
  simp only [hka2]
  exact ⟨_, rfl⟩

theorem prepared_from_ok (g2 : G2) : ∃ pr, G2Prepared.from_ g2 = .ok pr := by
  unfold G2Prepared.from_
  split
  · exact ⟨_, rfl⟩
  · exact prepTail_ok g2 _

theorem prepared_from_zero (g2 : G2) (h : g2.z = Fq2.zero) : G2Prepared.from_ g2 = .ok { coeffs := [] } :=
  if_pos ((Fq2.is_zero_iff g2.z).2 h)

theorem miller_loop_identity_left (pr : G2Prepared) (p : G1) (h : p.z = 0) :
    pr.miller_loop p = .ok Fq12.one := by
  unfold G2Prepared.miller_loop
  simp [show p.is_zero = true from (Fq.is_zero_iff p.z).2 h]

theorem miller_loop_identity_right (p : G1) : ({ coeffs := [] } : G2Prepared).miller_loop p = .ok Fq12.one := by
  unfold G2Prepared.miller_loop
  simp

/-- the common tail of the identity cases: a Miller value of one is sent to one -/
theorem fast_pairing_of_miller_one (p : G1) (qv : G2) (pr : G2Prepared) (hpr : Api.prepare qv = .ok pr)
    (hm : pr.miller_loop (Api.normalize p) = .ok Fq12.one) : Api.fast_pairing p qv = .ok Fq12.one := by
  show (Api.prepare qv >>= fun pr => pr.miller_loop (Api.normalize p) >>= fun f =>
    f.final_exp >>= Outcome.unwrap) = _
  rw [hpr, Outcome.bind_ok, hm, Outcome.bind_ok, final_exp_one, Outcome.bind_ok, Outcome.unwrap_some]

theorem fast_pairing_left_identity (p : G1) (qv : G2) (h : p.z = 0) : Api.fast_pairing p qv = .ok Fq12.one := by
  obtain ⟨pr, hpr⟩ := prepared_from_ok (Api.normalize qv)
  refine fast_pairing_of_miller_one p qv pr hpr ?_
  rw [normalize_of_none p (G1.to_affine_none_of_z p h)]
  exact miller_loop_identity_left pr p h

theorem fast_pairing_right_identity (p : G1) (qv : G2) (h : qv.z = Fq2.zero) : Api.fast_pairing p qv = .ok Fq12.one := by
  refine fast_pairing_of_miller_one p qv _ ?_ (miller_loop_identity_right _)
  unfold Api.prepare
  rw [normalize_of_none qv (G2.to_affine_none_of_z qv h), prepared_from_zero qv h]

/-- the two-call form `prepare` / `preparedPairing` unfolds to `fast_pairing` -/
theorem prepared_pairing_left_identity (p : G1) (qv : G2) (h : p.z = 0) :
    (do let pr ← Api.prepare qv; Api.preparedPairing pr p) = .ok Fq12.one :=
  fast_pairing_left_identity p qv h

theorem prepared_pairing_right_identity (p : G1) (qv : G2) (h : qv.z = Fq2.zero) :
    (do let pr ← Api.prepare qv; Api.preparedPairing pr p) = .ok Fq12.one :=
  fast_pairing_right_identity p qv h

end Sm9
