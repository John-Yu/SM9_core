import Sm9.Proofs.JacobianInst2
import Sm9.Proofs.Identity
/-!
# Observations depend only on the denoted group element
`to_affine` (and everything computed from it: encodings, `pairing`) is a function of
`toAff`; the fast path normalises first, so it too is a function of the group elements.
-/
namespace Sm9
open WeierstrassCurve

theorem pairing_congr (p p' : G1) (qv qv' : G2) (h1 : p.to_affine = p'.to_affine) (h2 : qv.to_affine = qv'.to_affine) :
    Api.pairing p qv = Api.pairing p' qv' := by
  unfold Api.pairing Pairings.pairing
  rw [h1, h2]

/-- identity operands short-circuit to one in any representation; on the others `normalize` reads
    only `to_affine` -/
theorem fast_pairing_congr (p p' : G1) (qv qv' : G2) (h1 : p.to_affine = p'.to_affine)
    (h2 : qv.to_affine = qv'.to_affine) : Api.fast_pairing p qv = Api.fast_pairing p' qv' := by
  cases hp : p.to_affine with
  | none =>
    rw [fast_pairing_left_identity p qv ((G1.to_affine_eq_none_iff p).1 hp),
      fast_pairing_left_identity p' qv' ((G1.to_affine_eq_none_iff p').1 (h1 ▸ hp))]
  | some a =>
    cases hq : qv.to_affine with
    | none =>
      rw [fast_pairing_right_identity p qv ((G2.to_affine_eq_none_iff qv).1 hq),
        fast_pairing_right_identity p' qv' ((G2.to_affine_eq_none_iff qv').1 (h2 ▸ hq))]
    | some b =>
      unfold Api.fast_pairing Api.normalize
      rw [← h1, ← h2, hp, hq]

theorem prepared_pairing_congr (p p' : G1) (qv qv' : G2) (h1 : p.to_affine = p'.to_affine)
    (h2 : qv.to_affine = qv'.to_affine) :
    (do let pr ← Api.prepare qv; Api.preparedPairing pr p) = (do let pr ← Api.prepare qv'; Api.preparedPairing pr p') := by
  cases hp : p.to_affine with
  | none =>
    rw [prepared_pairing_left_identity p qv ((G1.to_affine_eq_none_iff p).1 hp),
      prepared_pairing_left_identity p' qv' ((G1.to_affine_eq_none_iff p').1 (h1 ▸ hp))]
  | some a =>
    cases hq : qv.to_affine with
    | none =>
      rw [prepared_pairing_right_identity p qv ((G2.to_affine_eq_none_iff qv).1 hq),
        prepared_pairing_right_identity p' qv' ((G2.to_affine_eq_none_iff qv').1 (h2 ▸ hq))]
    | some b =>
      unfold Api.prepare Api.preparedPairing Api.normalize
      rw [← h1, ← h2, hp, hq]

end Sm9
