import Sm9.Proofs.JacobianInst
import Sm9.Proofs.Machine
import Sm9.Model.Prog
import Mathlib.GroupTheory.OrderOfElement
/-!
C16 for one group: any program over `one zero add sub neg mul normalize affine` is simulated by arithmetic of
discrete logarithms in Z_r, along any relation `S` between group values and logs that the operations preserve
(`GroupSim S`).  `Rel P d` (`P` is valid and denotes `d • P1`) is such a relation for G1, and `==`, `is_zero` of
related values are functions of the logs because P1 has order exactly r.
-/
namespace Sm9
open WeierstrassCurve
open List (Forall₂)

section dlog
variable {A : Type*} [AddCommGroup A] {g : A} (hg : r • g = 0)
include hg

theorem smul_val_add (a b : Fr) : (a + b).val • g = a.val • g + b.val • g :=
  (nsmul_eq_mod_nsmul (a.val + b.val) hg).symm.trans (add_smul _ _ _)

theorem smul_val_mul (a k : Fr) : (a * k).val • g = k.val • a.val • g :=
  (nsmul_eq_mod_nsmul (a.val * k.val) hg).symm.trans (by rw [mul_comm, mul_smul])

omit hg in
theorem smul_val_zero : (0 : Fr).val • g = 0 := zero_smul _ _

omit hg in
theorem smul_val_one : (1 : Fr).val • g = g := one_smul _ _

theorem smul_val_neg (a : Fr) : (-a).val • g = -(a.val • g) := by
  refine eq_neg_of_add_eq_zero_left ?_
  rw [← smul_val_add hg, neg_add_cancel]; exact smul_val_zero

theorem smul_val_inj (hg0 : g ≠ 0) {a b : Fr} (h : a.val • g = b.val • g) : a = b := by
  rw [nsmul_eq_nsmul_iff_modEq, addOrderOf_eq_prime hg hg0] at h
  exact Fin.ext ((Nat.mod_eq_of_lt a.isLt).symm.trans ((show a.val % r = b.val % r from h).trans (Nat.mod_eq_of_lt b.isLt)))

end dlog

noncomputable def gen1 := G1.toAff (G.one : G1)

theorem gen1_order : r • gen1 = 0 ∧ gen1 ≠ 0 := ⟨G1.one_order, G1.toAff_one_ne_zero⟩

theorem gen1_addOrderOf : addOrderOf gen1 = r := addOrderOf_eq_prime gen1_order.1 gen1_order.2

structure GroupSim {F : Type} [FieldElement F] [GroupParams F] (S : G F → Fr → Prop) : Prop where
  one : S G.one 1
  zero : S G.zero 0
  add : ∀ {P Q a b}, S P a → S Q b → S (P.add Q) (a + b)
  neg : ∀ {P a}, S P a → S P.neg (-a)
  mul : ∀ {P a} (k : Fr), S P a → S (P.mul k) (a * k)
  normalize : ∀ {P a}, S P a → S (Api.normalize P) a

section
variable {F : Type} [FieldElement F] [GroupParams F] {S : G F → Fr → Prop}

/-- `sub` of `G` is `add` of the negative -/
theorem GroupSim.sub (hS : GroupSim S) {P Q : G F} {a b : Fr} (hP : S P a) (hQ : S Q b) : S (P.sub Q) (a - b) :=
  sub_eq_add_neg a b ▸ hS.add hP (hS.neg hQ)

theorem GroupSim.some (hS : GroupSim S) : GroupSim fun P _ => ∃ d, S P d where
  one := ⟨_, hS.one⟩
  zero := ⟨_, hS.zero⟩
  add := fun ⟨_, hP⟩ ⟨_, hQ⟩ => ⟨_, hS.add hP hQ⟩
  neg := fun ⟨_, hP⟩ => ⟨_, hS.neg hP⟩
  mul := fun k ⟨_, hP⟩ => ⟨_, hS.mul k hP⟩
  normalize := fun ⟨_, hP⟩ => ⟨_, hS.normalize hP⟩

theorem gstep_sim (hS : GroupSim S) {regs : List (G F)} {ds : List Fr} (h : Forall₂ S regs ds) (ins : GInstr) :
    Forall₂ S (gstep regs ins) (astep ds ins) := by
  have app : ∀ {P d}, S P d → Forall₂ S (regs ++ [P]) (ds ++ [d]) := fun hr =>
    List.rel_append h (.cons hr .nil)
  cases ins with
  | one => exact app hS.one
  | zero => exact app hS.zero
  | add i j =>
    simp only [gstep, astep]
    exact (lookup_rel h i).cases h fun _ _ hP => (lookup_rel h j).cases h fun _ _ hQ => app (hS.add hP hQ)
  | sub i j =>
    simp only [gstep, astep]
    exact (lookup_rel h i).cases h fun _ _ hP => (lookup_rel h j).cases h fun _ _ hQ => app (hS.sub hP hQ)
  | neg i => simp only [gstep, astep]; exact (lookup_rel h i).cases h fun _ _ hP => app (hS.neg hP)
  | mul i k => simp only [gstep, astep]; exact (lookup_rel h i).cases h fun _ _ hP => app (hS.mul k hP)
  | normalize i => simp only [gstep, astep]; exact (lookup_rel h i).cases h fun _ _ hP => app (hS.normalize hP)
  | affine i => simp only [gstep, astep]; exact (lookup_rel h i).cases h fun _ _ hP => app (hS.normalize hP)

theorem grun_sim (hS : GroupSim S) (prog : List GInstr) : Forall₂ S (grun prog) (arun prog) :=
  List.rel_foldl (P := Forall₂ S) (R := Eq) (fun _ _ h _ _ e => e ▸ gstep_sim hS h _) .nil (List.forall₂_refl prog)

end

def Rel (P : G1) (d : Fr) : Prop := G1.Valid P ∧ G1.toAff P = d.val • gen1

theorem groupSim1 : GroupSim Rel where
  one := ⟨G1.one_valid, smul_val_one.symm⟩
  zero := ⟨Or.inl rfl, (G1.toAff_zero _ rfl).trans smul_val_zero.symm⟩
  add := fun {P Q} _ _ hP hQ => ⟨G1.add_valid P Q hP.1 hQ.1,
    by rw [G1.add_correct P Q hP.1 hQ.1, hP.2, hQ.2, smul_val_add gen1_order.1]⟩
  neg := fun {P} _ hP => ⟨G1.neg_valid P hP.1, by rw [G1.neg_correct P hP.1, hP.2, smul_val_neg gen1_order.1]⟩
  mul := fun {P} _ k hP => ⟨G1.mul_valid P hP.1 k,
    by rw [G1.mul_correct P hP.1 k, hP.2, smul_val_mul gen1_order.1]⟩
  normalize := fun {P} _ hP => let ⟨h1, _, _, h4⟩ := G1.normalize_spec P hP.1; ⟨h4, h1.trans hP.2⟩

/-- **every program**: register k denotes (discrete log k) • P1 -/
theorem run_refines (prog : List GInstr) : List.Forall₂ Rel (grun prog : List G1) (arun prog) :=
  grun_sim groupSim1 prog

theorem observe_eq {P Q : G1} {a b : Fr} (hP : Rel P a) (hQ : Rel Q b) : P.eq Q = true ↔ a = b := by
  rw [G1.eq_iff P Q hP.1 hQ.1, hP.2, hQ.2]
  exact ⟨smul_val_inj gen1_order.1 gen1_order.2, fun h => by rw [h]⟩

theorem observe_is_zero {P : G1} {a : Fr} (hP : Rel P a) : P.is_zero = true ↔ a = 0 := by
  rw [← observe_eq hP groupSim1.zero, G1.is_zero_iff, G1.eq_zero_iff P G.zero rfl]

end Sm9
