import Sm9.Proofs.SpecCurve
/-!
# The oracle `Spec.rate` computes `specMiller ^ ((q^12-1)/r)` on `G1 × G2`
-/
namespace Sm9
namespace SpecRate
open SpecField SpecCurve Miller WeierstrassCurve

-- declares `rateT fT pa` (`Spec.rate` with `frobTwist`, `ptAdd` as parameters) and `rateT.eq : Spec.rate P Q = rateT Spec.frobTwist @Spec.ptAdd P Q`
make_twin Sm9.Spec.rate as rateT abstracting Sm9.Spec.frobTwist Sm9.Spec.ptAdd

/-- a `for` loop over `idx.map g` that never exits early, simulated by a fold -/
theorem forIn_sim {σ S : Type} (R : S → σ → Prop) (g : ℕ → Bool) (body : Bool → σ → Id (ForInStep σ))
    (step : S → ℕ → S) (Ok : List ℕ → S → Prop) (idx : List ℕ) (S0 : S) (s : σ) (F : Id σ)
    (hF : forIn (idx.map g) s body = F) (hOk : Ok idx S0) (hR : R S0 s)
    (hstep : ∀ i is S0 s, Ok (i :: is) S0 → R S0 s →
      Ok is (step S0 i) ∧ ∃ s', body (g i) s = pure (ForInStep.yield s') ∧ R (step S0 i) s') :
    ∃ s', F = pure s' ∧ R (idx.foldl step S0) s' := by
  subst hF
  induction idx generalizing S0 s with
  | nil => exact ⟨s, rfl, hR⟩
  | cons i is ih =>
    obtain ⟨hOk', s1, hb, hR1⟩ := hstep i is S0 s hOk hR
    obtain ⟨s', hs', hR'⟩ := ih _ s1 hOk' hR1
    refine ⟨s', ?_, hR'⟩
    rw [List.map_cons, List.forIn_cons, hb, pure_bind]
    exact hs'

theorem lowerBits_a : Spec.lowerBits Spec.a = loopIdx.map (bit Consts.SM9_LOOP_N) := by decide +kernel
theorem finalExponent_eq : Spec.finalExponent = (q ^ 12 - 1) / r := by decide +kernel

theorem lineEval_some {x1 y1 x2 y2 : Fq2} (h1 : W.Nonsingular x1 y1) (h2 : W.Nonsingular x2 y2)
    (h : (Affine.Point.some x1 y1 h1 : W.Point) + .some x2 y2 h2 ≠ 0) (xP yP : Fq) :
    Spec.lineEval (toQ2 x1, toQ2 y1) (toQ2 x2, toQ2 y2) (xP.val, yP.val)
      = toF12 (lineVal W (lineAt xP yP) (.some x1 y1 h1) (.some x2 y2 h2)) :=
  lineEval_eq x1 y1 x2 y2 xP yP fun hh => h (Affine.Point.add_of_Y_eq hh.1 (by rw [Jac.negY_eq]; exact hh.2))

theorem rateT_main (fT : Spec.Q2 × Spec.Q2 → Option (Spec.Q2 × Spec.Q2))
    (pa : {α : Type} → Spec.FieldOps α → Spec.Pt α → Spec.Pt α → Spec.Pt α)
    (hfT : ∀ p : Fq2 × Fq2, fT (toQ2 p.1, toQ2 p.2) = some (toQ2 (frobTwist p).1, toQ2 (frobTwist p).2))
    (hpa : ∀ (x1 y1 : Fq2) (h1 : W.Nonsingular x1 y1) (x2 y2 : Fq2) (h2 : W.Nonsingular x2 y2),
      pa Spec.opsQ2 (some (toQ2 x1, toQ2 y1)) (some (toQ2 x2, toQ2 y2))
        = encPt (Affine.Point.some x1 y1 h1 + Affine.Point.some x2 y2 h2))
    (xP yP : Fq) (xQ yQ : Fq2) (hQ : yQ * yQ = xQ * xQ * xQ + b2)
    (k : ℕ) (hk : twPt (xQ, yQ) = k • twPt genXY) :
    rateT fT @pa (some (xP.val, yP.val)) (some (toQ2 xQ, toQ2 yQ))
      = some (toF12 (specMiller xP yP xQ yQ ^ ((q ^ 12 - 1) / r))) := by
  obtain ⟨hQn, hQp⟩ := twPt_some (xQ, yQ) hQ
  obtain ⟨hr, e1, e2⟩ := eigen_of_multiple (xQ, yQ) hQ k hk
  have h0 := twPt_ne_zero (xQ, yQ) hQ
  obtain ⟨t1, t2, t3, t4⟩ := tail_of_eigen hr h0 e1 e2
  have hp1 := frobTwist_equation (xQ, yQ) hQ
  have hp2 := frobTwist_equation _ hp1
  obtain ⟨hQ1n, hQ1p⟩ := twPt_some _ hp1
  obtain ⟨hQ2n, hQ2p⟩ := twPt_some _ hp2
  have hpt := specLoop_point W (lineAt xP yP) (twPt (xQ, yQ))
  unfold specMiller specTail
  unfold specLoop at hpt ⊢
  unfold rateT
  simp only []
  rw [lowerBits_a]
  generalize hF : (forIn (List.map (bit Consts.SM9_LOOP_N) loopIdx) _ _ : Id _) = F
  obtain ⟨s', rfl, hR⟩ := forIn_sim
    (fun (S0 : W.Point × Fq12) s => s = (none, toF12 S0.2, encPt S0.1)) (bit Consts.SM9_LOOP_N) _
    (specStep W (lineAt xP yP) (twPt (xQ, yQ)) Consts.SM9_LOOP_N)
    (fun is S0 => ∃ m, chainOK Consts.SM9_LOOP_N is m = true ∧ S0.1 = m • twPt (xQ, yQ))
    loopIdx (twPt (xQ, yQ), 1) _ F hF ⟨1, chainOK_loop, (one_smul _ _).symm⟩
    (by rw [hQp, toF12_one]; rfl)
    (by
      rintro i is ⟨T, f⟩ s ⟨m, hok, hS⟩ hR
      simp only [chainOK, Bool.and_eq_true, decide_eq_true_eq] at hok
      obtain ⟨⟨hm0, hmr⟩, hok'⟩ := hok
      dsimp only at hS hR
      have hSp := specStep_point W (lineAt xP yP) (twPt (xQ, yQ)) Consts.SM9_LOOP_N (T, f) i m hS
      refine ⟨⟨_, hok', hSp⟩, ?_⟩
      subst hR
      have hTne : T ≠ 0 := by rw [hS]; exact nsmul_ne_zero_of_lt hr h0 hm0 (by omega)
      obtain ⟨x, y, hn, rfl⟩ := exists_some_of_ne_zero W hTne
      have h2m : Affine.Point.some x y hn + .some x y hn = (2 * m) • twPt (xQ, yQ) := by
        rw [hS, mul_smul, two_smul]
      have hT2ne : Affine.Point.some x y hn + .some x y hn ≠ 0 := by
        rw [h2m]; exact nsmul_ne_zero_of_lt hr h0 (by omega) (by omega)
      obtain ⟨x2, y2, hn2, hT2⟩ := exists_some_of_ne_zero W hT2ne
      have hl1 := lineEval_some hn hn hT2ne xP yP
      unfold specStep
      simp only [encPt_some, hpa x y hn x y hn, hl1, hT2, toF12_mul]
      by_cases hb : bit Consts.SM9_LOOP_N i = true
      · have hT3ne : Affine.Point.some x2 y2 hn2 + .some xQ yQ hQn ≠ 0 := by
          rw [← hT2, h2m, ← hQp, ← succ_nsmul]
          exact nsmul_ne_zero_of_lt hr h0 (by omega) hmr
        have hl2 := lineEval_some hn2 hQn hT3ne xP yP
        simp only [hb, if_true, hpa x2 y2 hn2 xQ yQ hQn, hl2, toF12_mul, hQp]
        exact ⟨_, rfl, rfl⟩
      · simp only [hb, if_false, Bool.false_eq_true]
        exact ⟨_, rfl, rfl⟩)
  subst hR
  obtain ⟨St, hSt⟩ : ∃ St, St = loopIdx.foldl (specStep W (lineAt xP yP) (twPt (xQ, yQ)) Consts.SM9_LOOP_N)
      (twPt (xQ, yQ), 1) := ⟨_, rfl⟩
  rw [← hSt] at hpt ⊢
  obtain ⟨T, f⟩ := St
  dsimp only at hpt ⊢
  have hTne : T ≠ 0 := by rw [hpt]; exact nsmul_ne_zero_of_lt hr h0 loopN_bounds.1 loopN_bounds.2
  obtain ⟨x, y, hn, rfl⟩ := exists_some_of_ne_zero W hTne
  have hT3ne : Affine.Point.some x y hn + .some _ _ hQ1n ≠ 0 := by
    rw [hpt, ← hQ1p]; intro h; exact t2 (eq_neg_of_add_eq_zero_left h)
  obtain ⟨x3, y3, hn3, hT3⟩ := exists_some_of_ne_zero W hT3ne
  have hl1 := lineEval_some hn hQ1n hT3ne xP yP
  have hT4ne : Affine.Point.some x3 y3 hn3 + -.some _ _ hQ2n ≠ 0 := by
    rw [← hT3, hpt, ← hQ1p, ← hQ2p, ← sub_eq_add_neg]; exact sub_ne_zero.2 t4
  rw [neg_some] at hT4ne
  have hl2 := lineEval_some hn3 _ hT4ne xP yP
  simp only [Id.run_bind, hfT (xQ, yQ), hfT (frobTwist (xQ, yQ)), encPt_some,
    finalExponent_eq]
  dsimp only [Id.run]
  simp only [hpa x y hn _ _ hQ1n, hT3, encPt_some, hl1, toQ2_neg, hl2, toF12_mul, toF12_pow]
  rw [hQ1p, hT3, hQ2p, neg_some]
  rfl

/-- **the oracle's R-ate pairing is the Mathlib-level `specMiller ^ ((q¹²−1)/r)`** on `E(Fq) × ⟨P2⟩` -/
theorem spec_rate_eq (xP yP : Fq) (_hP : yP * yP = xP * xP * xP + b1) (xQ yQ : Fq2)
    (hQ : yQ * yQ = xQ * xQ * xQ + b2) (k : ℕ) (hk : twPt (xQ, yQ) = k • twPt genXY) :
    Spec.rate (some (xP.val, yP.val)) (some (toQ2 xQ, toQ2 yQ))
      = some (toF12 (specMiller xP yP xQ yQ ^ ((q ^ 12 - 1) / r))) := by
  rw [rateT.eq]
  exact rateT_main Spec.frobTwist @Spec.ptAdd (fun p => frobTwist_eq p)
    (fun x1 y1 h1 x2 y2 h2 => ptAdd_eq (.some x1 y1 h1) (.some x2 y2 h2)) xP yP xQ yQ hQ k hk

theorem spec_rate_none_left (Q : Spec.Pt Spec.Q2) : Spec.rate none Q = some (toF12 1) := by
  rw [rateT.eq, ← toF12_one]; rfl
theorem spec_rate_none_right (P : Spec.Pt ℕ) : Spec.rate P none = some (toF12 1) := by
  rw [rateT.eq, ← toF12_one]; cases P <;> rfl

end SpecRate
end Sm9
