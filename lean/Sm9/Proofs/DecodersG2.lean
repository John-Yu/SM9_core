import Sm9.Proofs.Decoders
/-!
# G2 decoders: completeness of compressed decoding, and the funnels

For a subgroup point of the twist both sign bytes decode, to (x, ±y); and every G2 decoder lets
only subgroup points of the twist in normal form through, reaching `Ok` only via `AffineG2::new`.
-/
namespace Sm9

/-- **completeness of `G2::from_compressed`**: every subgroup point of the twist is decodable from
    its abscissa with either sign byte, up to the sign of y -/
theorem g2_from_compressed_complete (x y : Fq2) (h : y * y = x * x * x + b2)
    (hsub : r • G2.toAff { x := x, y := y, z := 1 } = 0) (b : UInt8) (hb : b.toNat = 2 ∨ b.toNat = 3) :
    ∃ P : G2, Api.g2FromCompressed (b :: Api.fq2ToSlice x) = .ok P ∧ P.x = x ∧
      (P.y = y ∨ P.y = -y) ∧ P.z = 1 := by
  obtain ⟨s, hsq, _, hsy⟩ := Fq2.sqrt_of_sq _ y h
  have hy2 : (if ((b.toNat % 2 == 0) != Api.fq2IsEven s) then -s else s) = y ∨
      (if ((b.toNat % 2 == 0) != Api.fq2IsEven s) then -s else s) = -y := by
    split_ifs
    · rcases hsy with rfl | rfl
      · exact Or.inr rfl
      · exact Or.inl (neg_neg y)
    · exact hsy
  exact ⟨_, by rw [Api.g2FromCompressed_enc b hb x s hsq]; exact Api.liftNew_g2_of_root x y _ h hsub hy2,
    rfl, hy2, rfl⟩

theorem g2_from_compressed_complete_exact (x y : Fq2) (h : y * y = x * x * x + b2)
    (hsub : r • G2.toAff { x := x, y := y, z := 1 } = 0) (hre : y.c0 ≠ 0)
    (b : UInt8) (hb : b = compByte (Api.fq2IsEven y)) :
    ∃ P : G2, Api.g2FromCompressed (b :: Api.fq2ToSlice x) = .ok P ∧ P.x = x ∧ P.y = y ∧ P.z = 1 := by
  subst hb
  exact ⟨_, g2_from_compressed_encode_partial x y h hsub hre, rfl, rfl, rfl⟩

theorem g2_from_compressed_complete_exact_neg (x y : Fq2) (h : y * y = x * x * x + b2)
    (hsub : r • G2.toAff { x := x, y := y, z := 1 } = 0) (hre : y.c0 ≠ 0) :
    Api.g2FromCompressed (compByte (!Api.fq2IsEven y) :: Api.fq2ToSlice x) =
      .ok { x := x, y := -y, z := 1 } := by
  have hre' : (-y).c0 ≠ 0 := by
    rw [Fq2.neg_c0]; exact neg_ne_zero.2 hre
  have := g2_from_compressed_encode_partial x (-y) (by rw [neg_mul_neg]; exact h)
    (G2.subgroup_neg x y h hsub).2 hre'
  rw [Api.fq2IsEven_neg y hre] at this
  exact this

/-- **which strings `G2::from_compressed` accepts** (no side condition): exactly `b ‖ enc x` with
    `b ∈ {02, 03}` and x the abscissa of a subgroup point of the twist -/
theorem g2_from_compressed_accepts_iff (bs : List UInt8) :
    (∃ P, Api.g2FromCompressed bs = .ok P) ↔
      ∃ (b : UInt8) (x y : Fq2), (b.toNat = 2 ∨ b.toNat = 3) ∧ bs = b :: Api.fq2ToSlice x ∧
        y * y = x * x * x + b2 ∧ r • G2.toAff { x := x, y := y, z := 1 } = 0 := by
  constructor
  · rintro ⟨P, h⟩
    obtain ⟨b, x, y, hb, hbs, he, hs, _, _⟩ := g2_from_compressed_sound bs P h
    exact ⟨b, x, y, hb, hbs, he, hs⟩
  · rintro ⟨b, x, y, hb, rfl, he, hs⟩
    obtain ⟨P, hP, _⟩ := g2_from_compressed_complete x y he hs b hb
    exact ⟨P, hP⟩

/-- **exact characterisation of `G2::from_compressed`, partial**: for results with Re y ≠ 0 the
    accepted inputs are exactly the compressed encodings of subgroup points of the twist.
    (Missing for the unconditional statement: no point of the order-r subgroup has Re y = 0.) -/
theorem g2_from_compressed_iff_partial (bs : List UInt8) (P : G2) (hre : P.y.c0 ≠ 0) :
    Api.g2FromCompressed bs = .ok P ↔
      ∃ x y : Fq2, y * y = x * x * x + b2 ∧ r • G2.toAff { x := x, y := y, z := 1 } = 0 ∧
        bs = compByte (Api.fq2IsEven y) :: Api.fq2ToSlice x ∧ P = { x := x, y := y, z := 1 } := by
  constructor
  · intro h
    obtain ⟨b, x, y, _, hbs, he, hs, hP, hb⟩ := g2_from_compressed_sound bs P h
    have hy : y.c0 ≠ 0 := by rw [hP] at hre; exact hre
    refine ⟨x, y, he, hs, ?_, hP⟩
    rw [hbs, hb hy]
  · rintro ⟨x, y, he, hs, rfl, rfl⟩
    exact g2_from_compressed_encode_partial x y he hs hre

theorem g2_from_slice_funnel' (bs : List UInt8) (p : G2) (h : Api.g2FromSlice bs = .ok p) :
    p.z = 1 ∧ p.y * p.y = p.x * p.x * p.x + b2 ∧ r • G2.toAff p = 0 := by
  obtain ⟨_, x, y, _, _, he, hs, rfl⟩ := (g2_from_slice_iff bs p).1 h
  exact ⟨rfl, he, hs⟩

theorem g2_from_uncompressed_funnel (bs : List UInt8) (p : G2) (h : Api.g2FromUncompressed bs = .ok p) :
    p.z = 1 ∧ p.y * p.y = p.x * p.x * p.x + b2 ∧ r • G2.toAff p = 0 := by
  obtain ⟨tl, _, h'⟩ := (g2_from_uncompressed_iff bs p).1 h
  exact g2_from_slice_funnel' tl p h'

theorem g2_from_compressed_funnel (bs : List UInt8) (p : G2) (h : Api.g2FromCompressed bs = .ok p) :
    p.z = 1 ∧ p.y * p.y = p.x * p.x * p.x + b2 ∧ r • G2.toAff p = 0 := by
  obtain ⟨_, x, y, _, _, he, hs, rfl, _⟩ := g2_from_compressed_sound bs p h
  exact ⟨rfl, he, hs⟩

open Classical in
theorem G2.of_new (p : G2) (h : p.z = 1 ∧ p.y * p.y = p.x * p.x * p.x + b2 ∧ r • G2.toAff p = 0) :
    ∃ x y a, (AffineG.new x y : Except GroupError AffineG2) = .ok a ∧ p = a.to_jacobian := by
  obtain ⟨x, y, z⟩ := p
  obtain ⟨hz, he, hs⟩ := h
  simp only at hz he
  subst hz
  exact ⟨x, y, ⟨x, y⟩, by rw [AffineG.new_g2, if_pos he, if_pos hs], rfl⟩

theorem g2_from_slice_funnel_new (bs : List UInt8) (p : G2) (h : Api.g2FromSlice bs = .ok p) :
    ∃ x y a, (AffineG.new x y : Except GroupError AffineG2) = .ok a ∧ p = a.to_jacobian :=
  G2.of_new p (g2_from_slice_funnel' bs p h)

theorem g2_from_uncompressed_funnel_new (bs : List UInt8) (p : G2)
    (h : Api.g2FromUncompressed bs = .ok p) :
    ∃ x y a, (AffineG.new x y : Except GroupError AffineG2) = .ok a ∧ p = a.to_jacobian :=
  G2.of_new p (g2_from_uncompressed_funnel bs p h)

theorem g2_from_compressed_funnel_new (bs : List UInt8) (p : G2)
    (h : Api.g2FromCompressed bs = .ok p) :
    ∃ x y a, (AffineG.new x y : Except GroupError AffineG2) = .ok a ∧ p = a.to_jacobian :=
  G2.of_new p (g2_from_compressed_funnel bs p h)

theorem g2_from_compressed_total (bs : List UInt8) :
    (∃ P, Api.g2FromCompressed bs = .ok P) ∨ (∃ e, Api.g2FromCompressed bs = .error e) :=
  Except.ok_or_error _

example (b : UInt8) (hb : b.toNat = 2 ∨ b.toNat = 3) :
    ∃ P : G2, Api.g2FromCompressed (b :: Api.fq2ToSlice (G.one : G2).x) = .ok P ∧ P.x = (G.one : G2).x ∧
      (P.y = (G.one : G2).y ∨ P.y = -(G.one : G2).y) ∧ P.z = 1 :=
  g2_from_compressed_complete _ _ G2.one_on_twist G2.one_order b hb

end Sm9
