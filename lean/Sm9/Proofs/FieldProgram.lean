import Sm9.Proofs.LibScalar
import Sm9.Proofs.Machine
import Sm9.Model.Prog
/-!
C07 for any sequence of public operations.  `Sm9/Model/Prog.lean` defines one register machine `fstep O` / `frun O`
over the instruction set `FInstr` and instantiates it at the limb level (registers are stored Montgomery
representatives, operations the limb-model functions the `lib.rs` wrappers call) and at the value level (what the
driver runs).  `OpsSim R L V` (every operation of `L` simulates that of `V` along `R`) lifts to runs for any two
operation records; an instance says `opsSim` (with `R = CanonRel x a := x < modulus ∧ ofMont x = a`), `biUnique`
and `fnewV_isSome`.  The statements for `Fr` and `Fq` in the form a user applies (`∃ regs, frunL prog = some regs ∧ …`) are the
theorems of Props/C07.lean (`fr_program_refines` …); `Fq2Prog.frun_refines` is in FieldProgram2.lean.
-/

namespace Sm9
open List (Forall₂)

structure OpsSim {α β : Type} (R : α → β → Prop) (L : FOps α) (V : FOps β) : Prop where
  const : ∀ v, OptRel R (L.const v) (V.const v)
  slice : ∀ bs, OptRel R (L.slice bs) (V.slice bs)
  str : ∀ cs, OptRel R (L.str cs) (V.str cs)
  hash : ∀ bs, OptRel R (L.hash bs) (V.hash bs)
  random : ∀ draw, OptRel R (L.random draw) (V.random draw)
  add : ∀ {a b a' b'}, R a a' → R b b' → OptRel R (L.add a b) (V.add a' b')
  sub : ∀ {a b a' b'}, R a a' → R b b' → OptRel R (L.sub a b) (V.sub a' b')
  mul : ∀ {a b a' b'}, R a a' → R b b' → OptRel R (L.mul a b) (V.mul a' b')
  pow : ∀ {a b a' b'}, R a a' → R b b' → OptRel R (L.pow a b) (V.pow a' b')
  neg : ∀ {a a'}, R a a' → OptRel R (L.neg a) (V.neg a')
  inv : ∀ {a a'}, R a a' → OptRel R (L.inv a) (V.inv a')
  sqrt : ∀ {a a'}, R a a' → OptRel R (L.sqrt a) (V.sqrt a')
  setbit : ∀ {a a'} (b : Nat) (v : Bool), R a a' → OptRel R (L.setbit a b v) (V.setbit a' b v)

section generic
variable {α β γ : Type} {R : α → β → Prop} {L : FOps α} {V : FOps β}

theorem binop_sim {regs : List α} {ds : List β} (h : Forall₂ R regs ds) (i j : Nat)
    (f : α → α → Option α) (g : β → β → Option β)
    (hfg : ∀ {a b a' b'}, R a a' → R b b' → OptRel R (f a b) (g a' b')) :
    OptRel R (match regs[i]?, regs[j]? with | some a, some b => f a b | _, _ => none)
      (match ds[i]?, ds[j]? with | some a, some b => g a b | _, _ => none) :=
  (lookup_rel h i).cases .none_none fun _ _ ha => (lookup_rel h j).cases .none_none fun _ _ hb => hfg ha hb

theorem unop_sim {regs : List α} {ds : List β} (h : Forall₂ R regs ds) (i : Nat)
    (f : α → Option α) (g : β → Option β)
    (hfg : ∀ {a a'}, R a a' → OptRel R (f a) (g a')) :
    OptRel R (match regs[i]? with | some a => f a | none => none)
      (match ds[i]? with | some a => g a | none => none) :=
  (lookup_rel h i).cases .none_none fun _ _ ha => hfg ha

theorem fnew_sim (S : OpsSim R L V) {regs : List α} {ds : List β} (h : Forall₂ R regs ds) (ins : FInstr) :
    OptRel R (fnew L regs ins) (fnew V ds ins) := by
  cases ins with
  | const v => exact S.const v
  | slice bs => exact S.slice bs
  | str cs => exact S.str cs
  | hash bs => exact S.hash bs
  | random draw => exact S.random draw
  | add i j => exact binop_sim h i j _ _ S.add
  | sub i j => exact binop_sim h i j _ _ S.sub
  | mul i j => exact binop_sim h i j _ _ S.mul
  | pow i j => exact binop_sim h i j _ _ S.pow
  | neg i => exact unop_sim h i _ _ S.neg
  | dup i => exact lookup_rel h i
  | inv i => exact unop_sim h i _ _ S.inv
  | sqrt i => exact unop_sim h i _ _ S.sqrt
  | setbit i b v => exact unop_sim h i _ _ (S.setbit b v)

theorem fstep_sim (S : OpsSim R L V) {regs : List α} {ds : List β} (h : Forall₂ R regs ds) (ins : FInstr) :
    OptRel (Forall₂ R) (fstep L regs ins) (fstep V ds ins) := by
  unfold fstep
  exact (fnew_sim S h ins).cases .none_none fun _ _ hab => List.rel_append h (.cons hab .nil)

theorem frunFrom_eq_foldlM {O : FOps α} (prog : List FInstr) :
    ∀ regs, frunFrom O regs prog = prog.foldlM (fstep O) regs := by
  induction prog with
  | nil => intro _; rfl
  | cons ins rest ih => intro regs; rw [frunFrom, List.foldlM_cons]; cases fstep O regs ins <;> [rfl; exact ih _]

theorem frunFrom_sim (S : OpsSim R L V) (prog : List FInstr) (regs : List α) (ds : List β) (h : Forall₂ R regs ds) :
    OptRel (Forall₂ R) (frunFrom L regs prog) (frunFrom V ds prog) := by
  rw [frunFrom_eq_foldlM, frunFrom_eq_foldlM]
  exact foldlM_sim (fun _ _ ins h => fstep_sim S h ins) prog regs ds h

theorem frun_sim (S : OpsSim R L V) (prog : List FInstr) :
    OptRel (Forall₂ R) (frun L prog) (frun V prog) :=
  frunFrom_sim S prog [] [] List.Forall₂.nil

theorem fstep_length {O : FOps α} {regs regs' : List α} {ins : FInstr} (h : fstep O regs ins = some regs') :
    regs'.length = regs.length + 1 := by
  unfold fstep at h
  cases hn : fnew O regs ins with
  | none => rw [hn] at h; cases h
  | some x =>
    rw [hn, Option.some.injEq] at h
    subst h
    simp

theorem frunFrom_length {O : FOps α} (prog : List FInstr) : ∀ {regs regs' : List α},
    frunFrom O regs prog = some regs' → regs'.length = regs.length + prog.length := by
  induction prog with
  | nil => intro regs regs' h; simp only [frunFrom, Option.some.injEq] at h; subst h; simp
  | cons ins rest ih =>
    intro regs regs' h
    simp only [frunFrom] at h
    cases hs : fstep O regs ins with
    | none => rw [hs] at h; cases h
    | some regs1 =>
      rw [hs] at h
      rw [ih h, fstep_length hs, List.length_cons]
      omega

namespace OpsSim
variable (S : OpsSim R L V)
include S

/-- on a program the value machine runs: both run, the files are related, and every limb register has any
    property `C` that `R` implies -/
theorem total {C : α → Prop} (hC : ∀ x a, R x a → C x) {prog : List FInstr} (h : ¬ frun V prog = none) :
    ∃ regs ds, frun L prog = some regs ∧ frun V prog = some ds ∧ Forall₂ R regs ds ∧
      regs.length = prog.length ∧ ∀ x ∈ regs, C x :=
  match hv : frun V prog with
  | none => absurd hv h
  | some ds =>
    let ⟨regs, hl, hr⟩ := (frun_sim S prog).of_some hv
    ⟨regs, ds, hl, rfl, hr, by simpa using frunFrom_length prog hl, forall₂_left hC hr⟩

theorem left_inv {C : α → Prop} (hC : ∀ x a, R x a → C x) {prog : List FInstr} {regs : List α}
    (h : frun L prog = some regs) : ∀ x ∈ regs, C x :=
  let ⟨_, _, hr⟩ := (frun_sim S prog).of_some_left h; forall₂_left hC hr

/-- any observation `Obs` of two registers that `R` determines -/
theorem observe {Obs : α → α → β → β → Prop} (hObs : ∀ {x y a b}, R x a → R y b → Obs x y a b)
    {prog : List FInstr} {regs : List α} (h : frun L prog = some regs) :
    ∃ ds, frun V prog = some ds ∧ ds.length = regs.length ∧
      ∀ (i j : Nat) (x y : α), regs[i]? = some x → regs[j]? = some y →
        ∃ a b, ds[i]? = some a ∧ ds[j]? = some b ∧ Obs x y a b := by
  obtain ⟨ds, hv, hr⟩ := (frun_sim S prog).of_some_left h
  refine ⟨ds, hv, hr.length_eq.symm, fun i j x y hi hj => ?_⟩
  obtain ⟨a, ha, hxa⟩ := (lookup_rel hr i).of_some_left hi
  obtain ⟨b, hb, hyb⟩ := (lookup_rel hr j).of_some_left hj
  exact ⟨a, b, ha, hb, hObs hxa hyb⟩

/-- two limb-level files denoting the same value-level file are equal, so any further instruction
    treats them alike -/
theorem step_congr (hu : Relator.LeftUnique R) {regs regs' : List α} {ds : List β} (h : Forall₂ R regs ds)
    (h' : Forall₂ R regs' ds) (ins : FInstr) :
    OptRel (Forall₂ R) (fstep L regs ins) (fstep V ds ins) ∧
    OptRel (Forall₂ R) (fstep L regs' ins) (fstep V ds ins) ∧ fstep L regs ins = fstep L regs' ins :=
  ⟨fstep_sim S h ins, fstep_sim S h' ins, by rw [hu.forall₂ h h']⟩

end OpsSim

section wf
variable {O : FOps α} {wf : Nat → FInstr → Bool} {wfF : Nat → List FInstr → Bool}
  (hnil : ∀ n, wfF n [] = true) (hcons : ∀ n ins rest, wfF n (ins :: rest) = (wf n ins && wfF (n + 1) rest))
  (hO : ∀ regs ins, (fnew O regs ins).isSome = wf regs.length ins)
include hnil hcons hO

/-- `wfF` is any of the `wfFrom` below (both equations hold by `rfl`): if whether an instruction can be
    performed depends only on the number of registers, so does whether a program runs -/
theorem frunFrom_isSome (prog : List FInstr) : ∀ regs : List α, (frunFrom O regs prog).isSome = wfF regs.length prog := by
  induction prog with
  | nil => intro regs; exact (hnil _).symm
  | cons ins rest ih =>
    intro regs
    rw [hcons, ← hO, frunFrom, fstep]
    cases fnew O regs ins with
    | none => rfl
    | some x => simpa using ih (regs ++ [x])

theorem frun_eq_none_iff (prog : List FInstr) : frun O prog = none ↔ ¬ wfF 0 prog = true := by
  have := frunFrom_isSome hnil hcons hO prog []
  rw [List.length_nil] at this
  rw [← this, frun]
  cases frunFrom O [] prog <;> simp

end wf

/-- an operation on one register that succeeds (`c = true`) or fails whatever its operand -/
theorem isSome_unop (regs : List α) (i : Nat) (f : α → Option α) (c : Bool) (hf : ∀ a, (f a).isSome = c) :
    (match regs[i]? with | some a => f a | none => none).isSome = (decide (i < regs.length) && c) := by
  by_cases hi : i < regs.length <;> simp [hi, hf]

theorem isSome_binop (regs : List α) (i j : Nat) (f : α → α → Option α) (c : Bool) (hf : ∀ a b, (f a b).isSome = c) :
    (match regs[i]?, regs[j]? with | some a, some b => f a b | _, _ => none).isSome
      = (decide (i < regs.length) && decide (j < regs.length) && c) := by
  by_cases hi : i < regs.length <;> by_cases hj : j < regs.length <;> simp [hi, hj, hf]

theorem isSome_lookup (regs : List α) (i : Nat) : regs[i]?.isSome = decide (i < regs.length) := by
  by_cases hi : i < regs.length <;> simp [hi]

end generic

namespace FProg

theorem libFromSlice_eq (P : MontParams) (hex : List UInt8) : libFromSlice P hex = Fp.lib_from_slice P hex := rfl

theorem libFromSlice_rep {P : MontParams} [NeZero P.modulus] (hP : P.Ok) (bs : List UInt8) :
    ∃ o, libFromSlice P bs = .ok o ∧
      OptRel (Fp.Rep P) o (if 1 ≤ bs.length ∧ bs.length ≤ 64 then some (Fin.ofNat _ (beVal bs)) else none) :=
  libFromSlice_eq P bs ▸ Fp.lib_from_slice_rep hP bs

theorem constBytes_spec (v : Nat) (bs : List UInt8) (h : constBytes v = some bs) :
    (bs.length = 32 ∨ bs.length = 64) ∧ beVal bs = v := by
  unfold constBytes at h
  by_cases h1 : v < W256
  · rw [if_pos h1, Option.some.injEq] at h
    subst h
    refine ⟨Or.inl (beBytes_length _ _), beVal_beBytes 32 v ?_⟩
    rw [pow256_32]; exact h1
  · rw [if_neg h1] at h
    by_cases h2 : v < W256 * W256
    · rw [if_pos h2, Option.some.injEq] at h
      subst h
      refine ⟨Or.inr (beBytes_length _ _), beVal_beBytes 64 v ?_⟩
      rw [pow256_64, U512.W512_eq_mul]; exact h2
    · rw [if_neg h2] at h; cases h

theorem constBytes_isSome (v : Nat) : (constBytes v).isSome = decide (v < W256 * W256) := by
  have : v < W256 → v < W256 * W256 := fun h => lt_of_lt_of_le h (Nat.le_mul_of_pos_right _ (by decide))
  unfold constBytes
  split
  · simpa using this ‹_›
  · split <;> simp_all

section
variable {β : Type} {R : Nat → β → Prop} {z : β}

theorem orZero_rel (hz : R Fp.zero z) {X : Outcome (Option Nat)} {w : Option β} (h : ∃ o, X = .ok o ∧ OptRel R o w) :
    OptRel R (orZero X) (some (w.getD z)) := by
  obtain ⟨o, rfl, ho⟩ := h
  have := ho.getD hz
  cases o <;> exact this

theorem invL_rel (hz : R Fp.zero z) {P : MontParams} {a : Nat} {w : Option β}
    (h : ∃ o, Fp.inverse P a = some o ∧ OptRel R o w) : OptRel R (invL P a) (some (w.getD z)) := by
  obtain ⟨o, ho, hr⟩ := h
  rw [invL, ho]
  have := hr.getD hz
  cases o <;> exact this

theorem constL_rel {P : MontParams} {fromSlice : List UInt8 → Option β} {ofNat : Nat → β}
    (hL : ∀ bs, ∃ o, libFromSlice P bs = .ok o ∧ OptRel R o (fromSlice bs))
    (hV : ∀ bs, bs.length = 32 ∨ bs.length = 64 → fromSlice bs = some (ofNat (beVal bs))) (v : Nat) :
    OptRel R (constL P v) ((constBytes v).map fun _ => ofNat v) := by
  unfold constL
  cases hb : constBytes v with
  | none => exact .none_none
  | some bs =>
    obtain ⟨hlen, rfl⟩ := constBytes_spec v bs hb
    obtain ⟨o, ho, hr⟩ := hL bs
    rw [hV bs hlen] at hr
    simp only [ho]
    cases o with
    | none => exact hr.elim
    | some y => exact hr

end

end FProg

namespace FrProg

/-- a limb-level register `x` is the canonical Montgomery representative of the value `a` -/
def CanonRel (x : Nat) (a : Fr) : Prop := x < paramsR.modulus ∧ Fr.ofMont x = a

theorem canonRel_zero : CanonRel Fp.zero 0 := Fp.Rep.zero paramsR_ok

theorem biUnique : Relator.BiUnique CanonRel :=
  ⟨fun _ _ _ hx hy => (Fp.Rep.inj paramsR_ok hx hy).mpr rfl, fun _ _ _ hx hy => hx.2.symm.trans hy.2⟩

/-- the stored representative `x` denotes `x · R⁻¹` -/
theorem ofMont_eq_mul_inv (x : Nat) (hx : x < Consts.FR) :
    Fr.ofMont x = Fr.ofNat x * (Fr.ofNat W256).pow (r - 2) := by
  have h1 := Fr.rep_mul_R (Fr.rep hx)
  have h2 := Fr.pow_sub_two_mul (Fr.ofNat W256) (by decide +kernel)
  rw [Fr.pow_eq, ← h1, mul_assoc, mul_comm (Fr.ofNat W256), h2, mul_one]

theorem random_rel (draw : List Nat) (h : draw.length = 8) :
    CanonRel (Fp.random paramsR draw) (FProg.frRandomVal draw) := by
  obtain ⟨h1, h2⟩ := Fr.random_refines draw
  refine ⟨h1, ?_⟩
  rw [ofMont_eq_mul_inv _ h1, h2]
  unfold Api.frRandomRaw FProg.frRandomVal
  rw [List.take_of_length_le (by omega)]
  exact congrArg (· * _) (Fin.ofNat_mod _)

/-- `CanonRel` unfolds to `Fp.Rep paramsR`, the relation of `MontForm.lean` -/
theorem opsSim : OpsSim CanonRel opsL opsV where
  const := FProg.constL_rel (FProg.libFromSlice_rep paramsR_ok) fun bs h => if_pos (by omega)
  slice := fun bs => FProg.orZero_rel canonRel_zero (FProg.libFromSlice_rep paramsR_ok bs)
  str := fun cs => (Fp.from_str_rep paramsR_ok cs).getD canonRel_zero
  hash := fun bs => FProg.orZero_rel canonRel_zero (Fr.from_hash_refines bs)
  random := fun draw => by
    show OptRel CanonRel (if draw.length = 8 then _ else _) (if draw.length = 8 then _ else _)
    split
    exacts [random_rel draw ‹_›, .none_none]
  add := fun ha hb => Fp.Rep.add paramsR_ok ha hb
  sub := fun ha hb => Fp.Rep.sub paramsR_ok ha hb
  mul := fun ha hb => Fp.Rep.mul paramsR_ok ha hb
  pow := fun ha he => Fp.Rep.pow_rep paramsR_ok ha he
  neg := fun ha => Fp.Rep.neg paramsR_ok ha
  inv := fun ha => FProg.invL_rel canonRel_zero (Fr.inverse_rep ha)
  sqrt := fun _ => .none_none
  setbit := fun b v ⟨ha, ea⟩ => ea ▸ Fr.set_bit_refines _ b v ha

theorem frunFrom_refines (prog : List FInstr) (regs : List Nat) (ds : List Fr) (h : List.Forall₂ CanonRel regs ds) :
    OptRel (List.Forall₂ CanonRel) (frunFrom opsL regs prog) (frunFrom opsV ds prog) :=
  frunFrom_sim opsSim prog regs ds h

def wfInstr (n : Nat) : FInstr → Bool
  | .const v => decide (v < W256 * W256)
  | .slice _ => true
  | .str _ => true
  | .hash _ => true
  | .random draw => decide (draw.length = 8)
  | .add i j => decide (i < n) && decide (j < n)
  | .sub i j => decide (i < n) && decide (j < n)
  | .mul i j => decide (i < n) && decide (j < n)
  | .pow i j => decide (i < n) && decide (j < n)
  | .neg i => decide (i < n)
  | .dup i => decide (i < n)
  | .inv i => decide (i < n)
  | .sqrt _ => false
  | .setbit i _ _ => decide (i < n)

def wfFrom : Nat → List FInstr → Bool
  | _, [] => true
  | n, ins :: rest => wfInstr n ins && wfFrom (n + 1) rest

/-- every register index refers to an earlier step, `random` scripts have 8 words, `const` literals
    fit 64 bytes, and the program does not use `sqrt` (which `Fr` does not have) -/
def WellFormed (prog : List FInstr) : Prop := wfFrom 0 prog = true

instance (prog : List FInstr) : Decidable (WellFormed prog) := by unfold WellFormed; infer_instance

theorem fnewV_isSome (ds : List Fr) (ins : FInstr) : (fnew opsV ds ins).isSome = wfInstr ds.length ins := by
  cases ins with
  | const v => exact Option.isSome_map.trans (FProg.constBytes_isSome v)
  | random draw =>
    show Option.isSome (if draw.length = 8 then _ else _) = decide _
    split <;> simp_all
  | add i j => exact (isSome_binop ds i j _ true fun _ _ => rfl).trans (Bool.and_true _)
  | sub i j => exact (isSome_binop ds i j _ true fun _ _ => rfl).trans (Bool.and_true _)
  | mul i j => exact (isSome_binop ds i j _ true fun _ _ => rfl).trans (Bool.and_true _)
  | pow i j => exact (isSome_binop ds i j _ true fun _ _ => rfl).trans (Bool.and_true _)
  | neg i => exact (isSome_unop ds i _ true fun _ => rfl).trans (Bool.and_true _)
  | inv i => exact (isSome_unop ds i _ true fun _ => rfl).trans (Bool.and_true _)
  | setbit i b v => exact (isSome_unop ds i _ true fun _ => rfl).trans (Bool.and_true _)
  | sqrt i => exact (isSome_unop ds i _ false fun _ => rfl).trans (Bool.and_false _)
  | dup i => exact isSome_lookup ds i
  | _ => rfl

theorem frunV_fails_iff_wf (prog : List FInstr) : frunV prog = none ↔ ¬ WellFormed prog :=
  frun_eq_none_iff (fun _ => rfl) (fun _ _ _ => rfl) fnewV_isSome prog

theorem observe_is_zero {x : Nat} {a : Fr} (hx : CanonRel x a) : FProg.isZeroObs x = a.is_zero := Fr.is_zero_rep hx

theorem observe_is_zero_iff {x : Nat} {a : Fr} (hx : CanonRel x a) : FProg.isZeroObs x = true ↔ a = 0 := by
  rw [observe_is_zero hx]; exact Fr.is_zero_iff a

theorem observe_to_slice {x : Nat} {a : Fr} (hx : CanonRel x a) : FProg.toSliceObs paramsR x = Api.frToSlice a := by
  unfold FProg.toSliceObs
  rw [Fr.to_slice_refines x hx.1, hx.2]

theorem step_congr {regs regs' : List Nat} {ds : List Fr} (h : List.Forall₂ CanonRel regs ds)
    (h' : List.Forall₂ CanonRel regs' ds) (ins : FInstr) :
    OptRel (List.Forall₂ CanonRel) (fstepL regs ins) (fstepV ds ins) ∧
    OptRel (List.Forall₂ CanonRel) (fstepL regs' ins) (fstepV ds ins) ∧
    fstepL regs ins = fstepL regs' ins :=
  opsSim.step_congr biUnique.1 h h' ins

/-- a program using every Fr instruction, including the `None` conventions
    (`inverse` of zero, a 65-byte slice, a non-digit string) -/
example : WellFormed [.const 5, .slice [1, 2, 3], .str ['1', '2'], .hash [7], .random [1, 2, 3, 4, 5, 6, 7, 8],
    .add 0 1, .sub 2 3, .mul 4 5, .pow 6 0, .neg 7, .dup 8, .inv 9, .setbit 10 255 true,
    .sub 0 0, .inv 13, .slice (List.replicate 65 1), .str ['x']] := by decide

end FrProg

namespace FqProg

/-- a limb-level register `x` is the canonical Montgomery representative of the value `a` -/
def CanonRel (x : Nat) (a : Fq) : Prop := x < paramsQ.modulus ∧ Fq.ofMont x = a

theorem canonRel_zero : CanonRel Fp.zero 0 := Fp.Rep.zero paramsQ_ok

theorem biUnique : Relator.BiUnique CanonRel :=
  ⟨fun _ _ _ hx hy => (Fp.Rep.inj paramsQ_ok hx hy).mpr rfl, fun _ _ _ hx hy => hx.2.symm.trans hy.2⟩

-- `CanonRel` unfolds to `Fp.Rep paramsQ`: the `Fp.Rep.*` lemmas (MontForm, LibScalar), under names that `ha.add hb` finds

section
variable {a b : Nat} {x y : Fq}

theorem CanonRel.add (ha : CanonRel a x) (hb : CanonRel b y) : CanonRel (Fp.add paramsQ a b) (x + y) :=
  Fp.Rep.add paramsQ_ok ha hb

theorem CanonRel.sub (ha : CanonRel a x) (hb : CanonRel b y) : CanonRel (Fp.sub paramsQ a b) (x - y) :=
  Fp.Rep.sub paramsQ_ok ha hb

theorem CanonRel.mul (ha : CanonRel a x) (hb : CanonRel b y) : CanonRel (Fp.mul paramsQ a b) (x * y) :=
  Fp.Rep.mul paramsQ_ok ha hb

theorem CanonRel.neg (ha : CanonRel a x) : CanonRel (Fp.neg paramsQ a) (-x) :=
  Fp.Rep.neg paramsQ_ok ha

theorem CanonRel.double (ha : CanonRel a x) : CanonRel (Fp.double paramsQ a) x.double :=
  Fp.Rep.double paramsQ_ok ha

theorem CanonRel.squared (ha : CanonRel a x) : CanonRel (Fp.squared paramsQ a) x.squared :=
  Fp.Rep.squared paramsQ_ok ha

theorem CanonRel.is_zero (ha : CanonRel a x) : Fp.is_zero a = x.is_zero :=
  Fq.is_zero_rep ha

theorem CanonRel.sqrt (ha : CanonRel a x) : OptRel CanonRel (FqL.sqrt a) x.sqrt := Fq.sqrt_rep ha

/-- `Fq::inverse` on a canonical limb terminates within the model's fuel -/
theorem CanonRel.inverse (ha : CanonRel a x) : ∃ o, Fp.inverse paramsQ a = some o ∧ OptRel CanonRel o x.inverse :=
  Fq.inverse_rep ha

end

theorem opsSim : OpsSim CanonRel opsL opsV where
  const := FProg.constL_rel (FProg.libFromSlice_rep paramsQ_ok) fun bs h => if_pos (by omega)
  slice := fun bs => FProg.orZero_rel canonRel_zero (FProg.libFromSlice_rep paramsQ_ok bs)
  str := fun cs => (Fp.from_str_rep paramsQ_ok cs).getD canonRel_zero
  hash := fun _ => .none_none
  random := fun _ => .none_none
  add := fun ha hb => ha.add hb
  sub := fun ha hb => ha.sub hb
  mul := fun ha hb => ha.mul hb
  pow := fun ha he => Fp.Rep.pow_rep paramsQ_ok ha he
  neg := fun ha => ha.neg
  inv := fun ha => FProg.invL_rel canonRel_zero ha.inverse
  sqrt := fun ha => ha.sqrt.getD canonRel_zero
  setbit := fun _ _ _ => .none_none

theorem frunFrom_refines (prog : List FInstr) (regs : List Nat) (ds : List Fq) (h : List.Forall₂ CanonRel regs ds) :
    OptRel (List.Forall₂ CanonRel) (frunFrom opsL regs prog) (frunFrom opsV ds prog) :=
  frunFrom_sim opsSim prog regs ds h

def wfInstr (n : Nat) : FInstr → Bool
  | .const v => decide (v < W256 * W256)
  | .slice _ => true
  | .str _ => true
  | .hash _ => false
  | .random _ => false
  | .add i j => decide (i < n) && decide (j < n)
  | .sub i j => decide (i < n) && decide (j < n)
  | .mul i j => decide (i < n) && decide (j < n)
  | .pow i j => decide (i < n) && decide (j < n)
  | .neg i => decide (i < n)
  | .dup i => decide (i < n)
  | .inv i => decide (i < n)
  | .sqrt i => decide (i < n)
  | .setbit _ _ _ => false

def wfFrom : Nat → List FInstr → Bool
  | _, [] => true
  | n, ins :: rest => wfInstr n ins && wfFrom (n + 1) rest

/-- every register index refers to an earlier step, `const` literals fit 64 bytes, and the program
    does not use `hash`, `random`, `setbit` (which `Fq` does not have) -/
def WellFormed (prog : List FInstr) : Prop := wfFrom 0 prog = true

instance (prog : List FInstr) : Decidable (WellFormed prog) := by unfold WellFormed; infer_instance

theorem fnewV_isSome (ds : List Fq) (ins : FInstr) : (fnew opsV ds ins).isSome = wfInstr ds.length ins := by
  cases ins with
  | const v => exact Option.isSome_map.trans (FProg.constBytes_isSome v)
  | add i j => exact (isSome_binop ds i j _ true fun _ _ => rfl).trans (Bool.and_true _)
  | sub i j => exact (isSome_binop ds i j _ true fun _ _ => rfl).trans (Bool.and_true _)
  | mul i j => exact (isSome_binop ds i j _ true fun _ _ => rfl).trans (Bool.and_true _)
  | pow i j => exact (isSome_binop ds i j _ true fun _ _ => rfl).trans (Bool.and_true _)
  | neg i => exact (isSome_unop ds i _ true fun _ => rfl).trans (Bool.and_true _)
  | inv i => exact (isSome_unop ds i _ true fun _ => rfl).trans (Bool.and_true _)
  | sqrt i => exact (isSome_unop ds i _ true fun _ => rfl).trans (Bool.and_true _)
  | setbit i b v => exact (isSome_unop ds i _ false fun _ => rfl).trans (Bool.and_false _)
  | dup i => exact isSome_lookup ds i
  | _ => rfl

theorem frunV_fails_iff_wf (prog : List FInstr) : frunV prog = none ↔ ¬ WellFormed prog :=
  frun_eq_none_iff (fun _ => rfl) (fun _ _ _ => rfl) fnewV_isSome prog

theorem observe_is_zero {x : Nat} {a : Fq} (hx : CanonRel x a) : FProg.isZeroObs x = a.is_zero := hx.is_zero

theorem observe_is_zero_iff {x : Nat} {a : Fq} (hx : CanonRel x a) : FProg.isZeroObs x = true ↔ a = 0 := by
  rw [observe_is_zero hx]; exact Fq.is_zero_iff a

theorem observe_to_slice {x : Nat} {a : Fq} (hx : CanonRel x a) : FProg.toSliceObs paramsQ x = Api.fqToSlice a := by
  unfold FProg.toSliceObs
  rw [Fq.to_slice_refines x hx.1, hx.2]

/-- `Fq::is_even` (the sign bit of the compressed point encodings) -/
theorem observe_is_even {x : Nat} {a : Fq} (hx : CanonRel x a) : FProg.isEvenObs x = a.is_even := by
  unfold FProg.isEvenObs
  rw [Fq.is_even_refines x hx.1, hx.2]

/-- every field element has a canonical representative, `Fp.new_mul_factor` of its value (what the 32-byte
    branch of `from_slice` applies to the decoded integer) -/
theorem canonRel_fresh (a : Fq) : CanonRel (Fp.new_mul_factor paramsQ a.val) a := Fp.Rep.fresh paramsQ_ok a

theorem step_congr {regs regs' : List Nat} {ds : List Fq} (h : List.Forall₂ CanonRel regs ds)
    (h' : List.Forall₂ CanonRel regs' ds) (ins : FInstr) :
    OptRel (List.Forall₂ CanonRel) (fstepL regs ins) (fstepV ds ins) ∧
    OptRel (List.Forall₂ CanonRel) (fstepL regs' ins) (fstepV ds ins) ∧
    fstepL regs ins = fstepL regs' ins :=
  opsSim.step_congr biUnique.1 h h' ins

/-- a program using every Fq instruction, including the `None` conventions
    (`inverse` of zero, `sqrt`, a 65-byte slice, a non-digit string) -/
example : WellFormed [.const 5, .slice [1, 2, 3], .str ['1', '2'],
    .add 0 1, .sub 2 3, .mul 4 0, .pow 5 0, .neg 6, .dup 7, .inv 8, .sqrt 9,
    .sub 0 0, .inv 11, .slice (List.replicate 65 1), .str ['x'], .sqrt 1] := by decide

end FqProg

end Sm9
