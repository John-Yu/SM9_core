import Sm9.Proofs.Frobenius
import Sm9.Model.Pairings
/-!
# `Fq12::pow(u128)` and the final exponentiation

For the two `while` loops of `pow(u128)` fuel 128 suffices.  In either final exponentiation every
intermediate value is an integer power of the non-zero input (the Frobenius maps are power maps,
inverses are correct), so each chain computes `x ^ E` for an explicit integer `E` in `q` and the
extracted constants; `E ≡ (q¹² − 1)/r` modulo `q¹² − 1` by a kernel computation, and Lagrange finishes.  Hence every output is killed by `r` (`gt_order`).
An equation such as `.ok (x ^ ((q ^ 12 - 1) / r)) = .ok a` is taken apart with `Outcome.ok.inj` (or `injection`): `cases`/`obtain ⟨⟩`
on it tries to unify through the exponent and stops with "maximum recursion depth".
-/
namespace Sm9

namespace Fq12

theorem powStrip_spec (fuel : Nat) (base : Fq12) (e : Nat) :
    (powStrip fuel base e).1 ^ (powStrip fuel base e).2 = base ^ e ∧
    (e ≠ 0 → e < 2 ^ fuel → (powStrip fuel base e).2 % 2 = 1) ∧
    (powStrip fuel base e).2 ≤ e := by
  induction fuel generalizing base e with
  | zero =>
    refine ⟨rfl, ?_, le_refl _⟩
    intro h0 h1; simp at h1; exact absurd h1 h0
  | succ fuel ih =>
    unfold powStrip
    by_cases h : e % 2 = 0
    · have hb : (e % 2 == 0) = true := by simp [h]
      rw [if_pos hb]
      obtain ⟨i1, i2, i3⟩ := ih base.squared (e / 2)
      refine ⟨?_, ?_, ?_⟩
      · rw [i1, squared_eq_mul, ← pow_two, ← pow_mul]
        congr 1; omega
      · intro h0 h1
        apply i2
        · omega
        · rw [pow_succ] at h1; omega
      · omega
    · have hb : ¬ ((e % 2 == 0) = true) := by simp [h]
      rw [if_neg hb]
      refine ⟨rfl, ?_, le_refl _⟩
      intro _ _; show e % 2 = 1; omega

theorem powAcc_spec (fuel : Nat) (base acc : Fq12) (e : Nat) (he : e < 2 ^ fuel) :
    powAcc fuel base acc e = acc * base ^ (e - e % 2) := by
  induction fuel generalizing base acc e with
  | zero =>
    have : e = 0 := by simpa using he
    subst this
    simp [powAcc]
  | succ fuel ih =>
    unfold powAcc
    by_cases h : e > 1
    · rw [if_pos h]
      simp only
      have he2 : e / 2 < 2 ^ fuel := by rw [pow_succ] at he; omega
      rw [ih _ _ _ he2, squared_eq_mul, ← pow_two, ← pow_mul]
      by_cases h1 : e / 2 % 2 = 1
      · have hb : (e / 2 % 2 == 1) = true := by simp [h1]
        rw [if_pos hb, mul_assoc]
        congr 1
        rw [h1]
        have : base ^ 2 = base ^ (2 * 1) := by rw [mul_one]
        rw [this, ← pow_add]
        congr 1; omega
      · have hb : ¬ ((e / 2 % 2 == 1) = true) := by simp [h1]
        rw [if_neg hb]
        congr 2; omega
    · rw [if_neg h]
      have : e - e % 2 = 0 := by omega
      rw [this, pow_zero, mul_one]

theorem pow_u128_eq (x : Fq12) (e : Nat) (he : e < 2 ^ 128) : x.pow_u128 e = x ^ e := by
  unfold pow_u128
  by_cases h0 : e = 0
  · subst h0; simp; rfl
  · have hb : ¬ ((e == 0) = true) := by simp [h0]
    rw [if_neg hb]
    obtain ⟨i1, i2, i3⟩ := powStrip_spec 128 x e
    have hodd := i2 h0 he
    generalize powStrip 128 x e = p at i1 i3 hodd
    obtain ⟨b, e'⟩ := p
    simp only at i1 i3 hodd ⊢
    by_cases h1 : e' = 1
    · have hb1 : (e' == 1) = true := by simp [h1]
      rw [if_pos hb1, ← i1, h1, pow_one]
    · have hb1 : ¬ ((e' == 1) = true) := by simp [h1]
      rw [if_neg hb1, powAcc_spec 128 b b e' (lt_of_le_of_lt i3 he), ← i1, ← pow_succ']
      congr 1; omega

example : (2 : Fq12).pow_u128 (2 ^ 128 - 1) = 2 ^ (2 ^ 128 - 1) := pow_u128_eq _ _ (by norm_num)

open Consts

section zpow
variable {y : Fq12}

theorem z_mul (hy : y ≠ 0) (n m : ℤ) : y ^ n * y ^ m = y ^ (n + m) := (zpow_add₀ hy n m).symm
theorem z_sq (hy : y ≠ 0) (n : ℤ) : (y ^ n).squared = y ^ (2 * n) := by
  rw [squared_eq_mul, z_mul hy]; congr 1; ring
theorem z_inv (hy : y ≠ 0) (n : ℤ) : (y ^ n).inverse = some (y ^ (-n)) := by
  rw [inverse_eq_inv _ (zpow_ne_zero n hy), zpow_neg]
theorem z_pow (n : ℤ) (e : ℕ) (he : e < 2 ^ 128) : (y ^ n).pow_u128 e = y ^ (n * (e : ℤ)) := by
  rw [pow_u128_eq _ _ he, zpow_mul, zpow_natCast]
theorem z_frob1 (n : ℤ) : (y ^ n).frob1 = y ^ (n * (q : ℤ)) := by
  rw [frob1_eq_pow, zpow_mul, zpow_natCast]
theorem z_frob2 (n : ℤ) : (y ^ n).frob2 = y ^ (n * (q : ℤ) ^ 2) := by
  rw [frob2_eq_pow, zpow_mul, ← Nat.cast_pow, zpow_natCast]
theorem z_frob3 (n : ℤ) : (y ^ n).frob3 = y ^ (n * (q : ℤ) ^ 3) := by
  rw [frob3_eq_pow, zpow_mul, ← Nat.cast_pow, zpow_natCast]
theorem z_frob6 (n : ℤ) : (y ^ n).frob6 = y ^ (n * (q : ℤ) ^ 6) := by
  rw [frob6_eq_pow, zpow_mul, ← Nat.cast_pow, zpow_natCast]

end zpow

def easyExp : ℤ := ((q : ℤ) ^ 6 - 1) * ((q : ℤ) ^ 2 + 1)

/-- exponent computed by the chain `final_exponentiation_last_chunk` -/
def hardExp1 : ℤ :=
  let Q : ℤ := q
  let A2 : ℤ := SM9_A2
  let A3 : ℤ := SM9_A3
  let N : ℤ := SM9_NINE
  Q ^ 3 + A2 * (Q ^ 2 + (2 * Q - A3 * (Q + 1))) + (4 + (N * (1 + Q) - A3 * (Q + 2)))

/-- exponent computed by the chain `final_exp_last_chunk` -/
def hardExp2 : ℤ :=
  let S : ℤ := SM9_S
  let Q : ℤ := q
  let t1 := -S
  let x3 := t1 * Q
  let x4 := t1
  let x0 := (Q ^ 2 + (1 + Q)) * Q
  let x5 := t1 * S
  let t1 := -x5
  let u := -(t1 * Q)
  let x4 := x4 + u
  let x2 := t1 * Q ^ 2
  let t0 := -(t1 * S)
  let t1 := t0 * Q
  let t0 := t0 + t1
  let t0 := 2 * t0
  let t0 := t0 + (x4 + x5)
  let t1 := x3 + x5
  let t1 := t1 + t0
  let t0 := t0 + x2
  let t1 := 2 * t1
  let t1 := t1 + t0
  let t1 := 2 * t1
  let t0 := t1 + Q ^ 6
  let t1 := t1 + x0
  let t0 := 2 * t0
  t0 + t1

theorem first_chunk_zpow {y : Fq12} (hy : y ≠ 0) (n : ℤ) :
    (y ^ n).final_exponentiation_first_chunk = some (y ^ (n * easyExp)) := by
  unfold final_exponentiation_first_chunk
  rw [z_inv hy]
  simp only [z_frob6, z_mul hy, z_frob2]
  congr 2
  unfold easyExp; ring

theorem last_chunk_zpow {y : Fq12} (hy : y ≠ 0) (n : ℤ) :
    (y ^ n).final_exponentiation_last_chunk = .ok (y ^ (n * hardExp1)) := by
  unfold final_exponentiation_last_chunk
  simp only [z_pow _ SM9_A3 (by decide +kernel), z_pow _ SM9_A2 (by decide +kernel),
    z_pow _ SM9_NINE (by decide +kernel), z_inv hy, z_frob1, z_frob2, z_frob3,
    z_mul hy, z_sq hy, Outcome.unwrap_some, Outcome.bind_ok, Outcome.pure_eq]
  congr 2
  simp only [hardExp1]; ring

theorem last_chunk2_zpow {y : Fq12} (hy : y ≠ 0) (n : ℤ) :
    (y ^ n).final_exp_last_chunk = .ok (y ^ (n * hardExp2)) := by
  unfold final_exp_last_chunk
  simp only [z_pow _ SM9_S (by decide +kernel), z_inv hy, z_frob1, z_frob2, z_frob6,
    z_mul hy, z_sq hy, Outcome.unwrap_some, Outcome.bind_ok, Outcome.pure_eq]
  congr 2
  simp only [hardExp2]; ring

theorem r_dvd : r ∣ q ^ 12 - 1 := by decide +kernel

theorem exp1_congr :
    (easyExp * hardExp1 - (((q ^ 12 - 1) / r : ℕ) : ℤ)) % (((q ^ 12 - 1 : ℕ)) : ℤ) = 0 := by
  decide +kernel

theorem exp2_congr :
    (easyExp * hardExp2 - (((q ^ 12 - 1) / r : ℕ) : ℤ)) % (((q ^ 12 - 1 : ℕ)) : ℤ) = 0 := by
  decide +kernel

theorem zpow_congr {y : Fq12} (hy : y ≠ 0) (E : ℤ) (T : ℕ)
    (h : (E - (T : ℤ)) % ((q ^ 12 - 1 : ℕ) : ℤ) = 0) : y ^ E = y ^ T := by
  obtain ⟨k, hk⟩ := Int.dvd_of_emod_eq_zero h
  have hE : E = (T : ℤ) + ((q ^ 12 - 1 : ℕ) : ℤ) * k := by rw [← hk]; ring
  rw [hE, zpow_add₀ hy, zpow_mul, zpow_natCast, zpow_natCast, pow_card_sub_one y hy, one_zpow,
    mul_one]

/-- `Fq12::final_exponentiation`: the hard part is the `a2/a3/nine` chain -/
theorem final_exponentiation_eq_pow (x : Fq12) (hx : x ≠ 0) :
    x.final_exponentiation = .ok (some (x ^ ((q ^ 12 - 1) / r))) := by
  have h1 := first_chunk_zpow hx 1
  rw [zpow_one, one_mul] at h1
  unfold final_exponentiation
  rw [h1]
  simp only
  rw [last_chunk_zpow hx]
  simp only [Outcome.bind_ok, Outcome.pure_eq]
  rw [zpow_congr hx _ _ exp1_congr]

/-- `Fq12::final_exp`: the hard part is the `SM9_S` chain; `fast_pairing` calls this one -/
theorem final_exp_eq_pow (x : Fq12) (hx : x ≠ 0) :
    x.final_exp = .ok (some (x ^ ((q ^ 12 - 1) / r))) := by
  have h1 := first_chunk_zpow hx 1
  rw [zpow_one, one_mul] at h1
  unfold final_exp
  rw [h1]
  simp only
  rw [last_chunk2_zpow hx]
  simp only [Outcome.bind_ok, Outcome.pure_eq]
  rw [zpow_congr hx _ _ exp2_congr]

theorem final_exp_eq_model_pow (x : Fq12) (hx : x ≠ 0) :
    x.final_exp = .ok (some (FieldElement.pow x ((q ^ 12 - 1) / r))) := by
  rw [Fq12.pow_eq]; exact final_exp_eq_pow x hx

example : (1 : Fq12).final_exp = .ok (some 1) := by
  rw [final_exp_eq_pow 1 one_ne_zero, one_pow]

theorem final_exponentiation_zero : (0 : Fq12).final_exponentiation = .ok none := by
  unfold final_exponentiation final_exponentiation_first_chunk
  rw [inverse_zero]
theorem final_exp_zero : (0 : Fq12).final_exp = .ok none := by
  unfold final_exp final_exponentiation_first_chunk
  rw [inverse_zero]

theorem final_exp_eq_final_exponentiation (x : Fq12) : x.final_exp = x.final_exponentiation := by
  by_cases hx : x = 0
  · subst hx; rw [final_exp_zero, final_exponentiation_zero]
  · rw [final_exp_eq_pow x hx, final_exponentiation_eq_pow x hx]

end Fq12

theorem pow_final_exponent_pow_r (x : Fq12) (hx : x ≠ 0) : (x ^ ((q ^ 12 - 1) / r)) ^ r = 1 := by
  rw [← pow_mul, Nat.div_mul_cancel Fq12.r_dvd]
  exact Fq12.pow_card_sub_one x hx

/-- the second conjunct is the form in which the property is phrased -/
theorem gt_order (f g : Fq12) (h : f.final_exp = .ok (some g)) : g ^ r = 1 ∧ g ^ (r - 1) * g = 1 := by
  by_cases hf : f = 0
  · subst hf; rw [Fq12.final_exp_zero] at h
    simp only [Outcome.ok.injEq] at h
    exact absurd h (by simp)
  · rw [Fq12.final_exp_eq_pow f hf] at h
    have hg : g = f ^ ((q ^ 12 - 1) / r) := by
      simp only [Outcome.ok.injEq, Option.some.injEq] at h; exact h.symm
    have h1 := pow_final_exponent_pow_r f hf
    rw [← hg] at h1
    refine ⟨h1, ?_⟩
    rw [← pow_succ]
    have : r - 1 + 1 = r := by decide +kernel
    rw [this]; exact h1

theorem gt_order_fe (f g : Fq12) (h : f.final_exponentiation = .ok (some g)) : g ^ r = 1 := by
  rw [← Fq12.final_exp_eq_final_exponentiation] at h
  exact (gt_order f g h).1

end Sm9
