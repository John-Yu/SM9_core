import Sm9.Proofs.Conversions
import Sm9.Proofs.MontInvert
import Sm9.Proofs.Pow
import Sm9.Proofs.FqField
import Sm9.Model.Api
/-!
# The scalar / base-field API of `lib.rs` (`impl Fr`, `impl Fq`): limb level refines value level

`Fq = Fin q` and `Fr = Fin r` with the operations of `Fin`, so the statements about `Fq.ofMont`, `Fr.ofMont` are the
lemmas about `Fp.Rep P` (MontForm, MontInvert, Conversions) at `paramsQ`, `paramsR`; what mentions `.val`, `is_zero`,
`inverse`, `sqrt` of the model's `Fq`/`Fr` is stated per field at a variable value and instantiated from there.
-/

namespace Sm9

namespace Fp
variable {P : MontParams} [NeZero P.modulus]

/-- `Fr::from_slice` / `Fq::from_slice` of lib.rs: 1..=31 bytes are left-padded and strictly decoded, 32 bytes are
    reduced by a Montgomery multiplication with R², 33..=64 bytes are left-padded and reduced by `interpret` -/
def lib_from_slice (P : MontParams) (hex : List UInt8) : Outcome (Option Nat) :=
  let len := hex.length
  if 1 ≤ len ∧ len ≤ 31 then .ok (Fp.from_slice P (List.replicate (32 - len) 0 ++ hex))
  else if len = 32 then .ok ((U256.from_slice hex).map (Fp.new_mul_factor P))
  else if 33 ≤ len ∧ len ≤ 64 then
    (Fp.interpret P (List.replicate (64 - len) 0 ++ hex)).bind (fun y => .ok (some y))
  else .ok none

theorem lib_from_slice_rep (hP : P.Ok) (bs : List UInt8) :
    ∃ o, lib_from_slice P bs = .ok o ∧
      OptRel (Rep P) o (if 1 ≤ bs.length ∧ bs.length ≤ 64 then some (Fin.ofNat _ (beVal bs)) else none) := by
  unfold lib_from_slice
  simp only []
  by_cases h1 : 1 ≤ bs.length ∧ bs.length ≤ 31
  · -- fewer than 32 bytes are below `256^31 < p`, so the strict decoder accepts
    have hv : beVal bs < P.modulus := by
      have h2 : 256 ^ bs.length ≤ 256 ^ 31 := Nat.pow_le_pow_right (by decide) h1.2
      have h3 := hP.gt
      rw [← pow256_32, pow_succ] at h3
      have := beVal_lt bs
      omega
    rw [if_pos h1, if_pos (by omega), from_slice_strict_spec hP,
      if_pos ⟨length_pad 32 bs (by omega), by rwa [beVal_pad]⟩, beVal_pad]
    exact ⟨_, rfl, .some_some (.enc hP _)⟩
  · rw [if_neg h1]
    by_cases h2 : bs.length = 32
    · have hv : beVal bs < W256 := by have := beVal_lt bs; rwa [h2, pow256_32] at this
      rw [if_pos h2, if_pos (by omega), U256.from_slice_eq bs h2]
      exact ⟨_, rfl, .some_some (.new_mul_factor hP hv)⟩
    · rw [if_neg h2]
      by_cases h3 : 33 ≤ bs.length ∧ bs.length ≤ 64
      · obtain ⟨y, hy, hr⟩ := interpret_rep hP _ (length_pad 64 bs h3.2)
        rw [if_pos h3, if_pos (by omega), hy]
        exact ⟨_, rfl, .some_some (beVal_pad _ bs ▸ hr)⟩
      · rw [if_neg h3, if_neg (by omega)]
        exact ⟨_, rfl, .none_none⟩

end Fp

namespace Fq

def ofMont (x : Nat) : Fq := Fq.ofNat (Fp.into_u256 paramsQ x)

theorem q_eq : q = Consts.FQ := rfl

theorem rep {a : Nat} (ha : a < Consts.FQ) : Fp.Rep paramsQ a (ofMont a) := ⟨ha, rfl⟩

theorem val_ofNat (n : Nat) : (Fq.ofNat n).val = n % Consts.FQ := rfl

theorem rep_val {x : Nat} {a : Fq} (hx : Fp.Rep paramsQ x a) : Fp.into_u256 paramsQ x = a.val := hx.val paramsQ_ok

/-- through `rep_val` at a variable: instantiating `Fp.Rep.val` at `ofMont x` directly makes the kernel unfold
    the stuck Montgomery product under `Fin.val` -/
theorem ofMont_val (x : Nat) (hx : x < Consts.FQ) : (ofMont x).val = Fp.into_u256 paramsQ x :=
  (rep_val (rep hx)).symm

theorem add_refines (a b : Nat) (ha : a < Consts.FQ) (hb : b < Consts.FQ) :
    Fp.add paramsQ a b < Consts.FQ ∧ ofMont (Fp.add paramsQ a b) = ofMont a + ofMont b :=
  (rep ha).add paramsQ_ok (rep hb)

theorem mul_refines (a b : Nat) (ha : a < Consts.FQ) (hb : b < Consts.FQ) :
    Fp.mul paramsQ a b < Consts.FQ ∧ ofMont (Fp.mul paramsQ a b) = ofMont a * ofMont b :=
  (rep ha).mul paramsQ_ok (rep hb)

theorem double_refines (a : Nat) (ha : a < Consts.FQ) :
    Fp.double paramsQ a < Consts.FQ ∧ ofMont (Fp.double paramsQ a) = ofMont a + ofMont a :=
  (rep ha).double paramsQ_ok

theorem sub_refines (a b : Nat) (ha : a < Consts.FQ) (hb : b < Consts.FQ) :
    Fp.sub paramsQ a b < Consts.FQ ∧ ofMont (Fp.sub paramsQ a b) = ofMont a - ofMont b :=
  (rep ha).sub paramsQ_ok (rep hb)

theorem neg_refines (a : Nat) (ha : a < Consts.FQ) :
    Fp.neg paramsQ a < Consts.FQ ∧ ofMont (Fp.neg paramsQ a) = - ofMont a :=
  (rep ha).neg paramsQ_ok

theorem is_zero_rep {x : Nat} {a : Fq} (hx : Fp.Rep paramsQ x a) : Fp.is_zero x = a.is_zero := hx.is_zero paramsQ_ok

theorem is_one_rep {x : Nat} {a : Fq} (hx : Fp.Rep paramsQ x a) : FqL.is_one x = a.is_one :=
  Bool.eq_iff_iff.mpr (beq_iff_eq.trans ((hx.inj paramsQ_ok (.one paramsQ_ok)).trans (is_one_iff _).symm))

theorem into_u256_refines (a : Nat) (ha : a < Consts.FQ) : Fp.into_u256 paramsQ a = (ofMont a).val := by
  rw [ofMont_val a ha]

theorem to_slice_refines (a : Nat) (ha : a < Consts.FQ) : Fp.to_slice paramsQ a = Api.fqToSlice (ofMont a) := by
  unfold Fp.to_slice Api.fqToSlice
  rw [← ofMont_val a ha]

theorem is_even_refines (a : Nat) (ha : a < Consts.FQ) : Big.is_even (Fp.into_u256 paramsQ a) = (ofMont a).is_even := by
  unfold Big.is_even Fq.is_even
  rw [ofMont_val a ha]

theorem to_big_endian_refines (a : Nat) (ha : a < Consts.FQ) (n : Nat) :
    U256.to_big_endian (Fp.into_u256 paramsQ a) n = Api.fqToBigEndian (ofMont a) n := by
  unfold U256.to_big_endian Api.fqToBigEndian
  rw [← ofMont_val a ha]
  by_cases h : n = 32
  · subst h; rfl
  · simp [h]

theorem inverse_rep {x : Nat} {a : Fq} (hx : Fp.Rep paramsQ x a) :
    ∃ o, Fp.inverse paramsQ x = some o ∧ OptRel (Fp.Rep paramsQ) o a.inverse :=
  hx.inverse_optRel paramsQ_ok q_prime (fun h => h ▸ Fq.inverse_zero) (Fq.inverse_correct a)

/-- strict 32-byte decoder `fields::Fq::from_slice` (point coordinates) = `Api.fqFromSliceStrict` -/
theorem from_slice_strict_rep (bs : List UInt8) :
    OptRel (Fp.Rep paramsQ) (Fp.from_slice paramsQ bs) (Api.fqFromSliceStrict bs) :=
  Fp.from_slice_rep paramsQ_ok bs

theorem minus1_div4_val : Fp.into_u256 paramsQ FqL.minus1_div4 = Fq.minus1_div4 := by decide +kernel
theorem minus5_div8_val : Fp.into_u256 paramsQ FqL.minus5_div8 = Fq.minus5_div8 := by decide +kernel

/-- the candidate root `res` of `Fq::sqrt`, on stored values / on values -/
def sqrtResL (x : Nat) : Nat :=
  let a1a := Fp.pow paramsQ x FqL.minus1_div4
  if FqL.is_one a1a then Fp.mul paramsQ (Fp.pow paramsQ x FqL.minus5_div8) x
  else if FqL.is_one (Fp.neg paramsQ a1a) then
    let a := Fp.double paramsQ x
    let b := Fp.pow paramsQ (Fp.double paramsQ a) FqL.minus5_div8
    Fp.mul paramsQ a b
  else Fp.zero
def sqrtResV (x : Fq) : Fq :=
  let a1a := x.pow Fq.minus1_div4
  if a1a.is_one then x.pow Fq.minus5_div8 * x
  else if (-a1a).is_one then
    let a := x.double
    let b := a.double.pow Fq.minus5_div8
    a * b
  else 0

theorem pow_minus1_div4 {x : Nat} {a : Fq} (hx : Fp.Rep paramsQ x a) :
    Fp.Rep paramsQ (Fp.pow paramsQ x FqL.minus1_div4) (a.pow Fq.minus1_div4) :=
  minus1_div4_val ▸ hx.pow paramsQ_ok _

theorem pow_minus5_div8 {x : Nat} {a : Fq} (hx : Fp.Rep paramsQ x a) :
    Fp.Rep paramsQ (Fp.pow paramsQ x FqL.minus5_div8) (a.pow Fq.minus5_div8) :=
  minus5_div8_val ▸ hx.pow paramsQ_ok _

theorem sqrtRes_rep {x : Nat} {a : Fq} (hx : Fp.Rep paramsQ x a) : Fp.Rep paramsQ (sqrtResL x) (sqrtResV a) := by
  have ok := paramsQ_ok
  have hd : Fp.Rep paramsQ (Fp.double paramsQ x) a.double := hx.double ok
  have hdd : Fp.Rep paramsQ (Fp.double paramsQ (Fp.double paramsQ x)) a.double.double := hd.double ok
  unfold sqrtResL sqrtResV
  simp only []
  rw [is_one_rep (pow_minus1_div4 hx), is_one_rep ((pow_minus1_div4 hx).neg ok)]
  exact .ite ((pow_minus5_div8 hx).mul ok hx) (.ite (hd.mul ok (pow_minus5_div8 hdd)) (.zero ok))

theorem sqrtL_eq (x : Nat) : FqL.sqrt x =
    (if Fp.is_zero x then some Fp.zero else
      if Fp.is_zero (sqrtResL x) then none else
        some (if Fp.into_u256 paramsQ (Fp.neg paramsQ (sqrtResL x)) < Fp.into_u256 paramsQ (sqrtResL x)
              then Fp.neg paramsQ (sqrtResL x) else sqrtResL x)) := rfl

theorem sqrtV_eq (x : Fq) : x.sqrt =
    (if x.is_zero then some 0 else
      if (sqrtResV x).is_zero then none else
        some (if (-(sqrtResV x)).val < (sqrtResV x).val then -(sqrtResV x) else sqrtResV x)) := rfl

theorem sqrt_rep {x : Nat} {a : Fq} (hx : Fp.Rep paramsQ x a) : OptRel (Fp.Rep paramsQ) (FqL.sqrt x) a.sqrt := by
  have hr := sqrtRes_rep hx
  rw [sqrtL_eq, sqrtV_eq, is_zero_rep hx]
  -- as variables: a failed unification of two `if`s would otherwise evaluate the powers inside the conditions
  generalize sqrtResL x = y, sqrtResV a = v at hr ⊢
  have hn := hr.neg paramsQ_ok
  rw [is_zero_rep hr, rep_val hn, rep_val hr]
  exact .ite (.some_some (Fp.Rep.zero paramsQ_ok)) (.ite .none_none (.some_some (.ite hn hr)))

end Fq

namespace Fr

def ofMont (x : Nat) : Fr := Fr.ofNat (Fp.into_u256 paramsR x)

theorem r_eq : r = Consts.FR := rfl

theorem rep {a : Nat} (ha : a < Consts.FR) : Fp.Rep paramsR a (ofMont a) := ⟨ha, rfl⟩

theorem val_ofNat (n : Nat) : (Fr.ofNat n).val = n % Consts.FR := rfl
theorem rep_val {x : Nat} {a : Fr} (hx : Fp.Rep paramsR x a) : Fp.into_u256 paramsR x = a.val := hx.val paramsR_ok

theorem ofMont_val (x : Nat) (hx : x < Consts.FR) : (ofMont x).val = Fp.into_u256 paramsR x :=
  (rep_val (rep hx)).symm

/-- at a variable `a`, for the reason given at `Fq.ofMont_val` -/
theorem rep_mul_R {x : Nat} {a : Fr} (hx : Fp.Rep paramsR x a) : a * Fr.ofNat W256 = Fr.ofNat x := hx.mul_R paramsR_ok

theorem add_refines (a b : Nat) (ha : a < Consts.FR) (hb : b < Consts.FR) :
    Fp.add paramsR a b < Consts.FR ∧ ofMont (Fp.add paramsR a b) = ofMont a + ofMont b :=
  (rep ha).add paramsR_ok (rep hb)

theorem mul_refines (a b : Nat) (ha : a < Consts.FR) (hb : b < Consts.FR) :
    Fp.mul paramsR a b < Consts.FR ∧ ofMont (Fp.mul paramsR a b) = ofMont a * ofMont b :=
  (rep ha).mul paramsR_ok (rep hb)

theorem double_refines (a : Nat) (ha : a < Consts.FR) :
    Fp.double paramsR a < Consts.FR ∧ ofMont (Fp.double paramsR a) = ofMont a + ofMont a :=
  (rep ha).double paramsR_ok

theorem sub_refines (a b : Nat) (ha : a < Consts.FR) (hb : b < Consts.FR) :
    Fp.sub paramsR a b < Consts.FR ∧ ofMont (Fp.sub paramsR a b) = ofMont a - ofMont b :=
  (rep ha).sub paramsR_ok (rep hb)

theorem neg_refines (a : Nat) (ha : a < Consts.FR) :
    Fp.neg paramsR a < Consts.FR ∧ ofMont (Fp.neg paramsR a) = - ofMont a :=
  (rep ha).neg paramsR_ok

theorem is_zero_rep {x : Nat} {a : Fr} (hx : Fp.Rep paramsR x a) : Fp.is_zero x = a.is_zero := hx.is_zero paramsR_ok

theorem into_u256_refines (a : Nat) (ha : a < Consts.FR) : Fp.into_u256 paramsR a = (ofMont a).val := by
  rw [ofMont_val a ha]

theorem to_slice_refines (a : Nat) (ha : a < Consts.FR) : Fp.to_slice paramsR a = Api.frToSlice (ofMont a) := by
  unfold Fp.to_slice Api.frToSlice
  rw [← ofMont_val a ha]

theorem inverse_rep {x : Nat} {a : Fr} (hx : Fp.Rep paramsR x a) :
    ∃ o, Fp.inverse paramsR x = some o ∧ OptRel (Fp.Rep paramsR) o a.inverse :=
  hx.inverse_optRel paramsR_ok r_prime (fun h => h ▸ Fr.inverse_zero) (Fr.inverse_correct a)

theorem from_hash_refines (ha : List UInt8) :
    ∃ o, FrL.from_hash ha = .ok o ∧ OptRel (Fp.Rep paramsR) o (Api.frFromHash ha) := by
  unfold Api.frFromHash
  by_cases h : ha.length > 64
  · rw [if_pos h]
    exact ⟨none, FrL.from_hash_too_long ha h, .none_none⟩
  · rw [if_neg h]
    obtain ⟨y, h1, h2, h3⟩ := FrL.from_hash_spec ha (by omega)
    have hlt : beVal ha % (Consts.FR - 1) < Consts.FR - 1 := Nat.mod_lt _ (by decide +kernel)
    exact ⟨some y, h1, .some_some (Fp.Rep.of_into h2 (h3.trans (Nat.mod_eq_of_lt (by show _ < Consts.FR; omega)).symm))⟩

theorem set_bit_refines (a i : Nat) (v : Bool) (ha : a < Consts.FR) :
    Fp.set_bit paramsR a i v < Consts.FR ∧ ofMont (Fp.set_bit paramsR a i v) = Api.frSetBit (ofMont a) i v := by
  obtain ⟨h1, h2⟩ := Fp.set_bit_spec paramsR_ok a i v ha
  unfold Api.frSetBit
  rw [show (ofMont a).val = _ from ofMont_val a ha]
  exact Fp.Rep.of_into h2 h1

/-- `Fr::random`: the reduced draw is stored as it is (`Api.frRandomRaw`) -/
theorem random_refines (draw : List Nat) :
    Fp.random paramsR draw < Consts.FR ∧ Fp.random paramsR draw = Api.frRandomRaw draw :=
  (Fp.random_spec paramsR_ok draw).symm

end Fr

end Sm9
