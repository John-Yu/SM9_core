import Sm9.Proofs.ChainIndep
/-!
With `I(A)` the ideal of a point and `L_{A,B}` the line through `A`, `B` in `F[W]` (`ChainIndep.lean`): the Miller loop
followed by the two line steps yields an `F` with `(F)·I(N) = I(Q)^a·I(P)·I(M)·(V)`, `V` a product of verticals
(`MillerIdeal`).  For three such functions with `Q3 = Q1+Q2`, `P3 = P1+P2`, `M3 = M1+M2`, `N3 = N1+N2` the four relations
`(v)·I(A)·I(B) = (L_{A,B})·I(A+B)` give `F1·F2·L_{N1,N2} = c·F3·L_{Q1,Q2}^a·L_{P1,P2}·L_{M1,M2}` up to verticals, `c` a
non-zero constant (`miller_add_coordinateRing`).
-/
namespace Sm9
namespace Miller
open WeierstrassCurve
open WeierstrassCurve.Affine.CoordinateRing (XClass)

variable {F : Type} [Field F] [DecidableEq F]

def curveX (W : Affine F) : Set F := {x | ∃ y, W.Nonsingular x y}

omit [DecidableEq F] in
theorem VertProd.mono {W : Affine F} {S T : Set F} (h : S ⊆ T) {v : W.CoordinateRing}
    (hv : VertProd W S v) : VertProd W T v := by
  induction hv with
  | one => exact VertProd.one
  | mul _ hx ih => exact VertProd.mul ih (h hx)

omit [DecidableEq F] in
theorem VertProd.pow {W : Affine F} {S : Set F} {v : W.CoordinateRing} (hv : VertProd W S v) (n : ℕ) :
    VertProd W S (v ^ n) := by
  induction n with
  | zero => rw [pow_zero]; exact VertProd.one
  | succ n ih => rw [pow_succ]; exact ih.mul' hv

theorem pair_ideal (W : Affine F) (A B : W.Point) (hA : A ≠ 0) (hB : B ≠ 0) (hAB : A + B ≠ 0) :
    ∃ v, VertProd W (curveX W) v ∧
      Ideal.span {v} * (ptIdeal W A * ptIdeal W B)
        = Ideal.span {lineVal W (lineR W) A B} * ptIdeal W (A + B) := by
  obtain ⟨x, y, h, _, hxy⟩ := ptIdeal_add W A B hA hB hAB
  exact ⟨XClass W x, VertProd.single ⟨y, h⟩, hxy⟩

theorem step_line_vert (W : Affine F) (T B : W.Point) (g V : W.CoordinateRing)
    (J : Ideal W.CoordinateRing) (hT : T ≠ 0) (hB : B ≠ 0) (hTB : T + B ≠ 0)
    (hV : VertProd W (curveX W) V)
    (hI : Ideal.span {g} * ptIdeal W T = J * Ideal.span {V}) :
    ∃ V', VertProd W (curveX W) V' ∧
      Ideal.span {g * lineVal W (lineR W) T B} * ptIdeal W (T + B)
        = J * ptIdeal W B * Ideal.span {V'} := by
  obtain ⟨x, y, h, -, hS⟩ := step_line W T B g V J hT hB hTB hI
  exact ⟨_, VertProd.mul hV ⟨y, h⟩, hS⟩

/-- `f` has the divisor of a Miller function: `(f)·I(N) = I(Q)^a · I(P) · I(M) · (V)`, `V` a product of
    verticals.  (A definition of the generic file on purpose: ideal statements re-elaborated at a
    concrete field pick up instance paths whose unification is very expensive.) -/
def MillerIdeal (W : Affine F) (a : ℕ) (f : W.CoordinateRing) (Q P M N : W.Point) : Prop :=
  ∃ V, VertProd W (curveX W) V ∧
    Ideal.span {f} * ptIdeal W N = ptIdeal W Q ^ a * ptIdeal W P * ptIdeal W M * Ideal.span {V}

theorem millerIdeal_of_loop (W : Affine F) (Q Q1 Q2 N : W.Point) (n : ℕ)
    (hn : ∀ k, 0 < k → k < n → k • Q ≠ 0) (h1 : 1 < n) (Nn : ℕ) (idx : List ℕ)
    (hbin : binChainOK Nn idx n = true) (a : ℕ) (ha : chainVal Nn idx 1 = a)
    (hQ1 : Q1 ≠ 0) (hQ2 : Q2 ≠ 0) (hT1 : a • Q + Q1 ≠ 0) (hT2 : a • Q + Q1 + -Q2 = N) (hN : N ≠ 0) :
    MillerIdeal W a (specTail W (lineR W) Q1 Q2 (specLoop W (lineR W) Q Nn idx)) Q Q1 (-Q2) N := by
  have hinv := loop_inv W Q n hn h1 Nn idx hbin
  rw [ha] at hinv
  generalize specLoop W (lineR W) Q Nn idx = st at hinv ⊢
  obtain ⟨hm, hmn, hT, V, hV, hI⟩ := hinv
  have hT0 := hn _ hm hmn
  rw [← hT] at hT0 hT1 hT2
  subst hT2
  obtain ⟨V1, hV1, h1⟩ := step_line_vert W st.1 Q1 st.2 V _ hT0 hQ1 hT1
    (hV.mono (by rintro x ⟨y, h, _⟩; exact ⟨y, h⟩)) hI
  exact step_line_vert W (st.1 + Q1) (-Q2) _ V1 _ hT1 (neg_ne_zero.mpr hQ2) hN hV1 h1

/-- over a commutative semiring (here: the ideals of `F[W]`), so that `ring` works on variables -/
theorem ideal_combine {M : Type} [CommSemiring M] (a : ℕ)
    (f1 f2 f3 N1 N2 N3 A1 A2 A3 B1 B2 B3 C1 C2 C3 V1 V2 V3 l0 lp lm ln v0 vp vm vn : M)
    (h1 : f1 * N1 = A1 ^ a * B1 * C1 * V1) (h2 : f2 * N2 = A2 ^ a * B2 * C2 * V2)
    (h3 : f3 * N3 = A3 ^ a * B3 * C3 * V3)
    (k0 : v0 * (A1 * A2) = l0 * A3) (kp : vp * (B1 * B2) = lp * B3)
    (km : vm * (C1 * C2) = lm * C3) (kn : vn * (N1 * N2) = ln * N3) :
    (f1 * f2 * ln * (v0 ^ a * vp * vm * V3)) * N3
      = (f3 * l0 ^ a * lp * lm * (V1 * V2 * vn)) * N3 := by
  calc (f1 * f2 * ln * (v0 ^ a * vp * vm * V3)) * N3
      = f1 * f2 * (v0 ^ a * vp * vm * V3) * (ln * N3) := by ring
    _ = (f1 * N1) * (f2 * N2) * (v0 ^ a * vp * vm * V3) * vn := by rw [← kn]; ring
    _ = (v0 * (A1 * A2)) ^ a * (vp * (B1 * B2)) * (vm * (C1 * C2)) * (V1 * V2 * vn) * V3 := by
        rw [h1, h2]; ring
    _ = l0 ^ a * lp * lm * (V1 * V2 * vn) * (A3 ^ a * B3 * C3 * V3) := by rw [k0, kp, km]; ring
    _ = _ := by rw [← h3]; ring

theorem miller_add_coordinateRing (W : Affine F) (a : ℕ) (F1 F2 F3 : W.CoordinateRing)
    (Q1 Q2 Q3 P1 P2 P3 M1 M2 M3 N1 N2 N3 : W.Point)
    (d1 : MillerIdeal W a F1 Q1 P1 M1 N1) (d2 : MillerIdeal W a F2 Q2 P2 M2 N2)
    (d3 : MillerIdeal W a F3 Q3 P3 M3 N3)
    (hQ : Q1 + Q2 = Q3) (hP : P1 + P2 = P3) (hM : M1 + M2 = M3) (hN : N1 + N2 = N3)
    (hQ1 : Q1 ≠ 0) (hQ2 : Q2 ≠ 0) (hQ3 : Q3 ≠ 0) (hP1 : P1 ≠ 0) (hP2 : P2 ≠ 0) (hP3 : P3 ≠ 0)
    (hM1 : M1 ≠ 0) (hM2 : M2 ≠ 0) (hM3 : M3 ≠ 0) (hN1 : N1 ≠ 0) (hN2 : N2 ≠ 0) (hN3 : N3 ≠ 0) :
    ∃ (c : F) (Va Vb : W.CoordinateRing), c ≠ 0 ∧ VertProd W (curveX W) Va ∧
      VertProd W (curveX W) Vb ∧
      F1 * F2 * lineVal W (lineR W) N1 N2 * Va
        = algebraMap F W.CoordinateRing c *
          (F3 * lineVal W (lineR W) Q1 Q2 ^ a * lineVal W (lineR W) P1 P2
            * lineVal W (lineR W) M1 M2 * Vb) := by
  obtain ⟨V1, hV1, h1⟩ := d1
  obtain ⟨V2, hV2, h2⟩ := d2
  obtain ⟨V3, hV3, h3⟩ := d3
  subst hQ hP hM hN
  obtain ⟨v0, hv0, k0⟩ := pair_ideal W Q1 Q2 hQ1 hQ2 hQ3
  obtain ⟨vp, hvp, kp⟩ := pair_ideal W P1 P2 hP1 hP2 hP3
  obtain ⟨vm, hvm, km⟩ := pair_ideal W M1 M2 hM1 hM2 hM3
  obtain ⟨vn, hvn, kn⟩ := pair_ideal W N1 N2 hN1 hN2 hN3
  have key := ideal_combine a _ _ _ _ _ _ _ _ _ _ _ _ _ _ _ _ _ _ _ _ _ _ _ _ _ _
    h1 h2 h3 k0 kp km kn
  simp only [Ideal.span_singleton_pow, Ideal.span_singleton_mul_span_singleton] at key
  obtain ⟨c, hc, e⟩ := cancel_ptIdeal W _ hN3 _ _ key
  refine ⟨c, v0 ^ a * vp * vm * V3, V1 * V2 * vn, hc,
    (((hv0.pow a).mul' hvp).mul' hvm).mul' hV3, (hV1.mul' hV2).mul' hvn, ?_⟩
  exact e

end Miller
end Sm9
