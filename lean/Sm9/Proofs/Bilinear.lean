import Sm9.Proofs.BilinLeft
import Sm9.Proofs.BilinRight
/-!
`pair A B` is the reduced Miller value `specM(B)(A)^E` of two points of Mathlib's groups `E(Fq)` and `E′(Fq2)`,
and `1` if either is `O`.  On `E(Fq) × G2`, `G2 = E′(Fq2)[r] ∩ ker(π − q) ⊇ ⟨P2⟩` (`InG2`), it is additive in each
argument (`specM_add_left`, `specM_add`; opposite points by `σ`), so `pair (m • A) (n • B) = pair A B ^ (m·n)`, and
`pair A B ^ r = 1`.  Each entry point returns `pair` of the points its operands denote (`ComputesPair`); every law
of the API, for any Jacobian representatives, identities and zero scalars included, is the law on points read
through `add_correct`, `mul_correct`, `neg_correct`.  `frobG2 Q` is the affine representative of `π(Q)`; the code's own
`G2::q_power_frobenius(&π₁)` returns it on the normalised point and a representative of it on any representative.
-/
namespace Sm9
namespace Miller
open WeierstrassCurve

local notation "E" => ((q ^ 12 - 1) / r)

theorem Fq12.one_eq_one : Fq12.one = 1 := rfl

theorem G1.toAff_eq_zero_iff (P : G1) (hP : G1.Valid P) : G1.toAff P = 0 ↔ P.z = 0 := Jac.toAff_eq_zero_iff hP

theorem G2.toAff_eq_zero_iff (Q : G2) (hQ : G2.Valid Q) : G2.toAff Q = 0 ↔ Q.z = 0 := Jac.toAff_eq_zero_iff hQ

theorem specM_ne_zero {xP yP : Fq} (hA : SpecGroup.ENS b1 xP yP) (B : SpecGroup.EPt b2) :
    specM (lineAt xP yP) B ≠ 0 :=
  specM_lineAt_ne_zero _ _ (Jac.y_ne_zero_of_equation Fq.no_two_torsion (Jac.ns_equation hA)) B

noncomputable def pair : SpecGroup.EPt b1 → SpecGroup.EPt b2 → Fq12
  | .some xP yP _, .some xQ yQ h => specM (lineAt xP yP) (.some xQ yQ h) ^ E
  | _, _ => 1

theorem pair_zero_left (B : SpecGroup.EPt b2) : pair 0 B = 1 := rfl

theorem pair_zero_right (A : SpecGroup.EPt b1) : pair A 0 = 1 := by cases A <;> rfl

theorem pair_of_ne_zero {xP yP : Fq} (hA : SpecGroup.ENS b1 xP yP) {B : SpecGroup.EPt b2} (hB : B ≠ 0) :
    pair (.some xP yP hA) B = specM (lineAt xP yP) B ^ E := by
  obtain ⟨x, y, h, rfl⟩ := exists_some_of_ne_zero _ hB
  rfl

theorem pair_pow_r (A : SpecGroup.EPt b1) (B : SpecGroup.EPt b2) : pair A B ^ r = 1 := by
  by_cases hA : A = 0
  · rw [hA, pair_zero_left, one_pow]
  by_cases hB : B = 0
  · rw [hB, pair_zero_right, one_pow]
  obtain ⟨xP, yP, h, rfl⟩ := exists_some_of_ne_zero _ hA
  rw [pair_of_ne_zero h hB]
  exact pow_final_exponent_pow_r _ (specM_ne_zero h _)

theorem pair_neg_left (A : SpecGroup.EPt b1) (B : SpecGroup.EPt b2) : pair (-A) B * pair A B = 1 := by
  by_cases hA : A = 0
  · rw [hA, neg_zero, pair_zero_left, one_mul]
  by_cases hB : B = 0
  · rw [hB, pair_zero_right, pair_zero_right, one_mul]
  obtain ⟨xP, yP, hP, rfl⟩ := exists_some_of_ne_zero _ hA
  rw [Affine.Point.neg_some, pair_of_ne_zero _ hB, pair_of_ne_zero _ hB, Jac.negY_eq, specM_negP]
  exact sigma_pow_final _ (specM_ne_zero hP _)

theorem pair_neg_right (A : SpecGroup.EPt b1) (B : SpecGroup.EPt b2) : pair A (-B) * pair A B = 1 := by
  by_cases hA : A = 0
  · rw [hA, pair_zero_left, pair_zero_left, one_mul]
  by_cases hB : B = 0
  · rw [hB, neg_zero, pair_zero_right, one_mul]
  obtain ⟨xP, yP, hP, rfl⟩ := exists_some_of_ne_zero _ hA
  rw [pair_of_ne_zero _ (neg_ne_zero.mpr hB), pair_of_ne_zero _ hB, specM_neg]
  exact sigma_pow_final _ (specM_ne_zero hP _)

theorem pair_neg_neg (A : SpecGroup.EPt b1) (B : SpecGroup.EPt b2) : pair (-A) (-B) = pair A B := by
  -- both sides are the inverse of `pair A (-B)`: `pair (-A) (-B) · pair A (-B) = 1 = pair A (-B) · pair A B`
  linear_combination pair A B * pair_neg_left A (-B) - pair (-A) (-B) * pair_neg_right A B

theorem pair_add_left (A A' : SpecGroup.EPt b1) (B : SpecGroup.EPt b2) (hB : InG2 B) :
    pair (A + A') B = pair A B * pair A' B := by
  by_cases hA : A = 0
  · rw [hA, zero_add, pair_zero_left, one_mul]
  by_cases hA' : A' = 0
  · rw [hA', add_zero, pair_zero_left, mul_one]
  by_cases hB0 : B = 0
  · rw [hB0, pair_zero_right, pair_zero_right, pair_zero_right, mul_one]
  by_cases h0 : A + A' = 0
  · rw [h0, pair_zero_left, eq_neg_of_add_eq_zero_left h0, pair_neg_left]
  obtain ⟨x1, y1, h1, rfl⟩ := exists_some_of_ne_zero _ hA
  obtain ⟨x2, y2, h2, rfl⟩ := exists_some_of_ne_zero _ hA'
  obtain ⟨x3, y3, h3, e3⟩ := exists_some_of_ne_zero _ h0
  obtain ⟨Γ, D, hd⟩ := lineData_of_add Fq12.ofFq b1 h1 h2 h3 e3
  rw [e3, pair_of_ne_zero _ hB0, pair_of_ne_zero _ hB0, pair_of_ne_zero _ hB0]
  exact specM_add_left hd B hB0 hB

theorem pair_add_right (A : SpecGroup.EPt b1) (B B' : SpecGroup.EPt b2) (hB : InG2 B) (hB' : InG2 B') :
    pair A (B + B') = pair A B * pair A B' := by
  by_cases hA : A = 0
  · rw [hA, pair_zero_left, pair_zero_left, pair_zero_left, mul_one]
  by_cases hB0 : B = 0
  · rw [hB0, zero_add, pair_zero_right, one_mul]
  by_cases hB0' : B' = 0
  · rw [hB0', add_zero, pair_zero_right, mul_one]
  by_cases h0 : B + B' = 0
  · rw [h0, pair_zero_right, eq_neg_of_add_eq_zero_left h0, pair_neg_right]
  obtain ⟨xP, yP, hP, rfl⟩ := exists_some_of_ne_zero _ hA
  rw [pair_of_ne_zero _ h0, pair_of_ne_zero _ hB0, pair_of_ne_zero _ hB0']
  exact specM_add xP yP (Jac.ns_equation hP) B B' _ hB0 hB0' h0 hB hB' rfl

theorem pair_nsmul_left (A : SpecGroup.EPt b1) (B : SpecGroup.EPt b2) (hB : InG2 B) (n : ℕ) :
    pair (n • A) B = pair A B ^ n := by
  induction n with
  | zero => rw [zero_nsmul, pow_zero, pair_zero_left]
  | succ n ih => rw [succ_nsmul, pair_add_left _ _ B hB, ih, pow_succ]

theorem pair_nsmul_right (A : SpecGroup.EPt b1) (B : SpecGroup.EPt b2) (hB : InG2 B) (n : ℕ) :
    pair A (n • B) = pair A B ^ n := by
  induction n with
  | zero => rw [zero_nsmul, pow_zero, pair_zero_right]
  | succ n ih => rw [succ_nsmul, pair_add_right A _ B (hB.nsmul n) hB, ih, pow_succ]

/-- the affine (`z = 1`) representative of `π(Q)` for a Jacobian `Q` -/
noncomputable def frobG2 (Q : G2) : G2 := affG2 (frobTwist (Q.x / Q.z ^ 2, Q.y / Q.z ^ 3))

theorem frobG2_z (Q : G2) : (frobG2 Q).z ≠ 0 := one_ne_zero

theorem frobG2_valid (Q : G2) (hQz : Q.z ≠ 0) (hQv : G2.Valid Q) : G2.Valid (frobG2 Q) :=
  affG2_valid _ (frobTwist_equation _ (twPt_of_valid Q hQz hQv).1)

theorem frobG2_toAff (Q : G2) (hQz : Q.z ≠ 0) (hQv : G2.Valid Q) (hG : InG2 (G2.toAff Q)) :
    G2.toAff (frobG2 Q) = q • G2.toAff Q := by
  obtain ⟨he, hpt⟩ := twPt_of_valid Q hQz hQv
  rw [← hG.2, ← hpt, frobHom_twPt (Q.x / Q.z ^ 2, Q.y / Q.z ^ 3) he]
  exact (twPt_eq _).symm

/-- the code's own Frobenius `G2::q_power_frobenius(&π₁)` on the normalised point returns `frobG2 Q` -/
theorem q_power_frobenius_normalize (Q : G2) (hQz : Q.z ≠ 0) :
    G2m.q_power_frobenius (Api.normalize Q) (Fq2.new pi1 0) = some (frobG2 Q) := by
  rw [G2.normalize_of_z_ne Q hQz]
  exact q_power_frobenius_eq (Q.x / Q.z ^ 2, Q.y / Q.z ^ 3)

/-- the scalar `q mod r` of `Fr` -/
def qFr : Fr := Fr.ofNat q

/-- `q_power_frobenius` never fails with `π₁`, and its result denotes `π(Q)` -/
theorem q_power_frobenius_to_affine (Q : G2) (hQz : Q.z ≠ 0) :
    ∃ Q', G2m.q_power_frobenius Q (Fq2.new pi1 0) = some Q' ∧ Q'.to_affine = (frobG2 Q).to_affine := by
  unfold G2m.q_power_frobenius
  rw [pi1F_inverse]
  refine ⟨_, rfl, ?_⟩
  have hz' : Q.z.unitary_inverse ≠ 0 := (map_ne_zero conj).2 hQz
  rw [G2.to_affine_spec, G2.to_affine_spec, if_neg (frobG2_z Q)]
  simp only [G.new, Fq2.squared_eq_mul]
  rw [if_neg hz']
  unfold frobG2 affG2 frobTwist
  simp only [← conj_apply, map_div₀, map_pow, one_pow, div_one]
  have hz'' : conj Q.z ≠ 0 := hz'
  -- not `congr 2`: its `rfl` attempts unfold the arithmetic of `Fq2`
  refine congrArg some (congrArg₂ _ ?_ ?_) <;> field_simp

theorem api_fast_pairing_eq_pair (P : G1) (Q : G2) (hP : G1.Valid P) (hQ : G2.Valid Q) (hG : InG2 (G2.toAff Q)) :
    Api.fast_pairing P Q = .ok (pair (G1.toAff P) (G2.toAff Q)) := by
  by_cases hPz : P.z = 0
  · rw [fast_pairing_left_identity P Q hPz, G1.toAff_zero P hPz, pair_zero_left, Fq12.one_eq_one]
  by_cases hQz : Q.z = 0
  · rw [fast_pairing_right_identity P Q hQz, G2.toAff_zero Q hQz, pair_zero_right, Fq12.one_eq_one]
  rw [api_fast_pairing_eq_specM P Q hPz (Jac.y_ne_zero b1 Fq.no_two_torsion P (hP.resolve_left hPz)) hQz hQ hG,
    G1.toAff_some P hPz (hP.resolve_left hPz), pair_of_ne_zero _ ((Jac.toAff_eq_zero_iff hQ).not.2 hQz)]

theorem api_pairing_eq_pair (P : G1) (Q : G2) (hP : G1.Valid P) (hQ : G2.Valid Q) (hG : InG2 (G2.toAff Q)) :
    Api.pairing P Q = .ok (pair (G1.toAff P) (G2.toAff Q)) := by
  by_cases hPz : P.z = 0
  · rw [pairing_left_identity P Q hPz, G1.toAff_zero P hPz, pair_zero_left, Fq12.one_eq_one]
  by_cases hQz : Q.z = 0
  · rw [pairing_right_identity P Q hQz, G2.toAff_zero Q hQz, pair_zero_right, Fq12.one_eq_one]
  have h0 : G2.toAff Q ≠ 0 := (Jac.toAff_eq_zero_iff hQ).not.2 hQz
  rw [G1.toAff_some P hPz (hP.resolve_left hPz), pair_of_ne_zero _ h0,
    ← specMNaf_reduced_eq_specM_reduced _ _ (Jac.affine_equation hP hPz) _ hG.1 h0]
  exact pairing_eq_specM P Q hPz (Jac.y_ne_zero b1 Fq.no_two_torsion P (hP.resolve_left hPz)) hQz hQ hG

/-- on valid operands with `Q ∈ G2` the entry point `e` returns `pair` of the points they denote, so every law of
    `pair` reads as a law of `e` -/
def ComputesPair (e : G1 → G2 → Outcome Fq12) : Prop :=
  ∀ P Q, G1.Valid P → G2.Valid Q → InG2 (G2.toAff Q) → e P Q = .ok (pair (G1.toAff P) (G2.toAff Q))

theorem computesPair_pairing : ComputesPair Api.pairing := api_pairing_eq_pair

theorem computesPair_fast : ComputesPair Api.fast_pairing := api_fast_pairing_eq_pair

theorem computesPair_prepared :
    ComputesPair (fun P Q => do let pr ← Api.prepare Q; Api.preparedPairing pr P) :=
  api_fast_pairing_eq_pair

private theorem gtPow_eq (g : Fq12) (a : Fr) : Api.gtPow g a = g ^ a.val := Fq12.pow_eq g a.val

section laws
variable {e : G1 → G2 → Outcome Fq12} (he : ComputesPair e)
  (P : G1) (Q : G2) (hP : G1.Valid P) (hQ : G2.Valid Q) (hG : InG2 (G2.toAff Q))
include he hP hQ hG

theorem ComputesPair.total : ∃ g, e P Q = .ok g := ⟨_, he P Q hP hQ hG⟩

theorem ComputesPair.pow_r (g : Fq12) (hg : e P Q = .ok g) : g ^ r = 1 := by
  rw [he P Q hP hQ hG] at hg
  rw [← Outcome.ok.inj hg, pair_pow_r]

theorem ComputesPair.neg_left : ∃ g g', e P Q = .ok g ∧ e P.neg Q = .ok g' ∧ g' * g = 1 :=
  ⟨_, _, he P Q hP hQ hG, he _ Q (G1.neg_valid P hP) hQ hG, by rw [G1.neg_correct P hP, pair_neg_left]⟩

theorem ComputesPair.neg_right : ∃ g g', e P Q = .ok g ∧ e P Q.neg = .ok g' ∧ g' * g = 1 :=
  ⟨_, _, he P Q hP hQ hG, he P _ hP (G2.neg_valid Q hQ) (G2.neg_correct Q hQ ▸ hG.neg), by
    rw [G2.neg_correct Q hQ, pair_neg_right]⟩

theorem ComputesPair.neg_neg : e P.neg Q.neg = e P Q := by
  rw [he _ _ (G1.neg_valid P hP) (G2.neg_valid Q hQ) (G2.neg_correct Q hQ ▸ hG.neg), he P Q hP hQ hG,
    G1.neg_correct P hP, G2.neg_correct Q hQ, pair_neg_neg]

theorem ComputesPair.add_left (P' : G1) (hP' : G1.Valid P') :
    ∃ g g' : Fq12, e P Q = .ok g ∧ e P' Q = .ok g' ∧ e (P.add P') Q = .ok (g * g') :=
  ⟨_, _, he P Q hP hQ hG, he P' Q hP' hQ hG, by
    rw [he _ Q (G1.add_valid P P' hP hP') hQ hG, G1.add_correct P P' hP hP', pair_add_left _ _ _ hG]⟩

theorem ComputesPair.add_right (Q' : G2) (hQ' : G2.Valid Q') (hG' : InG2 (G2.toAff Q')) :
    ∃ g g' : Fq12, e P Q = .ok g ∧ e P Q' = .ok g' ∧ e P (Q.add Q') = .ok (g * g') :=
  ⟨_, _, he P Q hP hQ hG, he P Q' hP hQ' hG', by
    rw [he P _ hP (G2.add_valid Q Q' hQ hQ') (G2.add_correct Q Q' hQ hQ' ▸ hG.add hG'),
      G2.add_correct Q Q' hQ hQ', pair_add_right _ _ _ hG hG']⟩

omit hP hQ in
theorem ComputesPair.smul (P' : G1) (hP' : G1.Valid P') (Q' : G2) (hQ' : G2.Valid Q') (m n : ℕ)
    (h1 : G1.toAff P' = m • G1.toAff P) (h2 : G2.toAff Q' = n • G2.toAff Q) :
    e P' Q' = .ok (pair (G1.toAff P) (G2.toAff Q) ^ (m * n)) := by
  rw [he P' Q' hP' hQ' (h2 ▸ hG.nsmul n), h1, h2, pair_nsmul_left _ _ (hG.nsmul n), pair_nsmul_right _ _ hG,
    ← pow_mul, mul_comm]

theorem ComputesPair.mul_left (a : Fr) : ∃ g, e P Q = .ok g ∧ e (P.mul a) Q = .ok (g ^ a.val) :=
  ⟨_, he P Q hP hQ hG, by
    rw [he.smul P Q hG _ (G1.mul_valid P hP a) Q hQ a.val 1 (G1.mul_correct P hP a) (one_nsmul _).symm, mul_one]⟩

theorem ComputesPair.mul_right (b : Fr) : ∃ g, e P Q = .ok g ∧ e P (Q.mul b) = .ok (g ^ b.val) :=
  ⟨_, he P Q hP hQ hG, by
    rw [he.smul P Q hG P hP _ (G2.mul_valid Q hQ b) 1 b.val (one_nsmul _).symm (G2.mul_correct Q hQ b), one_mul]⟩

theorem ComputesPair.bilinear (a b : Fr) :
    ∃ g, e P Q = .ok g ∧ e (P.mul a) (Q.mul b) = .ok (g ^ (a.val * b.val)) ∧
      e (P.mul a) (Q.mul b) = .ok (Api.gtPow g (a * b)) := by
  have h := he.smul P Q hG _ (G1.mul_valid P hP a) _ (G2.mul_valid Q hQ b) a.val b.val
    (G1.mul_correct P hP a) (G2.mul_correct Q hQ b)
  refine ⟨_, he P Q hP hQ hG, h, ?_⟩
  rw [h, gtPow_eq]
  exact congrArg Outcome.ok (pow_eq_pow_mod _ (pair_pow_r _ _))

theorem ComputesPair.mul_qFr :
    ∃ g, e P Q = .ok g ∧ g ^ r = 1 ∧ e P (Q.mul qFr) = .ok (g ^ qFr.val) := by
  obtain ⟨g, h1, h2⟩ := he.mul_right P Q hP hQ hG qFr
  exact ⟨g, h1, he.pow_r P Q hP hQ hG g h1, h2⟩

theorem ComputesPair.mul_q : ∃ g, e P Q = .ok g ∧ e P (Q.mul qFr) = .ok (g ^ q) := by
  obtain ⟨g, h1, h2, h3⟩ := he.mul_qFr P Q hP hQ hG
  exact ⟨g, h1, by rw [h3, pow_eq_pow_mod q h2]; rfl⟩

theorem ComputesPair.frobG2 (hQz : Q.z ≠ 0) : ∃ g, e P Q = .ok g ∧ e P (frobG2 Q) = .ok (g ^ q) :=
  ⟨_, he P Q hP hQ hG, by
    rw [he.smul P Q hG P hP _ (frobG2_valid Q hQz hQ) 1 q (one_nsmul _).symm (frobG2_toAff Q hQz hQ hG), one_mul]⟩

end laws

section
variable (P : G1) (Q : G2) (hP : G1.Valid P) (hQ : G2.Valid Q) (k : ℕ)
  (hk : G2.toAff Q = k • G2.toAff (G.one : G2))
include hP hQ hk

theorem api_pairing_neg_left :
    ∃ g g' : Fq12, Api.pairing P Q = .ok g ∧ Api.pairing P.neg Q = .ok g' ∧ g' * g = 1 :=
  computesPair_pairing.neg_left P Q hP hQ (inG2_of_multiple k hk)

theorem api_pairing_neg_right :
    ∃ g g' : Fq12, Api.pairing P Q = .ok g ∧ Api.pairing P Q.neg = .ok g' ∧ g' * g = 1 :=
  computesPair_pairing.neg_right P Q hP hQ (inG2_of_multiple k hk)

theorem api_pairing_sub_left (P' : G1) (hP' : G1.Valid P') :
    ∃ g g' h : Fq12, Api.pairing P Q = .ok g ∧ Api.pairing P' Q = .ok g' ∧
      Api.pairing (P.sub P') Q = .ok h ∧ h * g' = g :=
  have hG := inG2_of_multiple k hk
  ⟨_, _, _, api_pairing_eq_pair P Q hP hQ hG, api_pairing_eq_pair P' Q hP' hQ hG,
    api_pairing_eq_pair _ Q (G1.add_valid _ _ hP (G1.neg_valid P' hP')) hQ hG, by
    rw [← pair_add_left _ _ _ hG, G1.sub_correct P P' hP hP', sub_add_cancel]⟩

theorem api_pairing_sub_right (Q' : G2) (hQ' : G2.Valid Q') (k' : ℕ)
    (hk' : G2.toAff Q' = k' • G2.toAff (G.one : G2)) :
    ∃ g g' h : Fq12, Api.pairing P Q = .ok g ∧ Api.pairing P Q' = .ok g' ∧
      Api.pairing P (Q.sub Q') = .ok h ∧ h * g' = g := by
  have hG := inG2_of_multiple k hk
  have hG' := inG2_of_multiple k' hk'
  have hS : InG2 (G2.toAff (Q.sub Q')) := by
    rw [G2.sub_correct Q Q' hQ hQ', sub_eq_add_neg]
    exact hG.add hG'.neg
  refine ⟨_, _, _, api_pairing_eq_pair P Q hP hQ hG, api_pairing_eq_pair P Q' hP hQ' hG',
    api_pairing_eq_pair P _ hP (G2.add_valid _ _ hQ (G2.neg_valid Q' hQ')) hS, ?_⟩
  rw [← pair_add_right _ _ _ hS hG', G2.sub_correct Q Q' hQ hQ', sub_add_cancel]

theorem api_prepared_pairing_add_left2 (P' : G1) (hP' : G1.Valid P') :
    ∃ g g' : Fq12, (do let pr ← Api.prepare Q; Api.preparedPairing pr P) = .ok g ∧
      (do let pr ← Api.prepare Q; Api.preparedPairing pr P') = .ok g' ∧
      (do let pr ← Api.prepare Q; Api.preparedPairing pr (P.add P')) = .ok (g * g') :=
  computesPair_prepared.add_left P Q hP hQ (inG2_of_multiple k hk) P' hP'

theorem api_prepared_pairing_total : ∃ g, (do let pr ← Api.prepare Q; Api.preparedPairing pr P) = .ok g :=
  computesPair_prepared.total P Q hP hQ (inG2_of_multiple k hk)

theorem api_prepared_pairing_mul_left (a : Fr) :
    ∃ g, (do let pr ← Api.prepare Q; Api.preparedPairing pr P) = .ok g ∧
      (do let pr ← Api.prepare Q; Api.preparedPairing pr (P.mul a)) = .ok (g ^ a.val) :=
  computesPair_prepared.mul_left P Q hP hQ (inG2_of_multiple k hk) a

theorem api_prepared_pairing_mul_right (b : Fr) :
    ∃ g, (do let pr ← Api.prepare Q; Api.preparedPairing pr P) = .ok g ∧
      (do let pr ← Api.prepare (Q.mul b); Api.preparedPairing pr P) = .ok (g ^ b.val) :=
  computesPair_prepared.mul_right P Q hP hQ (inG2_of_multiple k hk) b

end

section
variable (P : G1) (Q : G2) (hPz : P.z ≠ 0) (hPv : G1.Valid P) (hQz : Q.z ≠ 0)
    (hQv : G2.Valid Q) (k : Nat) (hk : G2.toAff Q = k • G2.toAff (G.one : G2))
include hPz hPv hQz hQv hk

theorem prepared_pairing_neg_neg :
    (do let pr ← Api.prepare Q.neg; Api.preparedPairing pr P.neg)
      = (do let pr ← Api.prepare Q; Api.preparedPairing pr P) :=
  computesPair_prepared.neg_neg P Q hPv hQv (inG2_of_multiple k hk)

end

theorem api_prepared_pairing_mul_q (P : G1) (Q : G2) (hPz : P.z ≠ 0) (hPv : G1.Valid P) (hQz : Q.z ≠ 0)
    (hQv : G2.Valid Q) (k : Nat) (hk : G2.toAff Q = k • G2.toAff (G.one : G2)) :
    ∃ g, (do let pr ← Api.prepare Q; Api.preparedPairing pr P) = .ok g ∧
      (do let pr ← Api.prepare (Q.mul qFr); Api.preparedPairing pr P) = .ok (g ^ q) :=
  computesPair_prepared.mul_q P Q hPv hQv (inG2_of_multiple k hk)

theorem api_pairings_q_power_frobenius (P : G1) (Q : G2) (hPv : G1.Valid P) (hQz : Q.z ≠ 0)
    (hQv : G2.Valid Q) (k : Nat) (hk : G2.toAff Q = k • G2.toAff (G.one : G2)) :
    ∃ Q', G2m.q_power_frobenius Q (Fq2.new pi1 0) = some Q' ∧
      (∃ g, Api.fast_pairing P Q = .ok g ∧ Api.fast_pairing P Q' = .ok (g ^ q)) ∧
      (∃ g, (do let pr ← Api.prepare Q; Api.preparedPairing pr P) = .ok g ∧
        (do let pr ← Api.prepare Q'; Api.preparedPairing pr P) = .ok (g ^ q)) ∧
      (∃ g, Api.pairing P Q = .ok g ∧ Api.pairing P Q' = .ok (g ^ q)) := by
  obtain ⟨Q', h1, h2⟩ := q_power_frobenius_to_affine Q hQz
  refine ⟨Q', h1, ?_, ?_, ?_⟩
  · rw [fast_pairing_congr P P Q' (frobG2 Q) rfl h2]
    exact computesPair_fast.frobG2 P Q hPv hQv (inG2_of_multiple k hk) hQz
  · rw [prepared_pairing_congr P P Q' (frobG2 Q) rfl h2]
    exact computesPair_prepared.frobG2 P Q hPv hQv (inG2_of_multiple k hk) hQz
  · rw [pairing_congr P P Q' (frobG2 Q) rfl h2]
    exact computesPair_pairing.frobG2 P Q hPv hQv (inG2_of_multiple k hk) hQz

example (P : G1) (hPz : P.z ≠ 0) (hPv : G1.Valid P) :
    ∃ g, Api.fast_pairing P (G.one : G2) = .ok g ∧
      Api.fast_pairing P ((G.one : G2).mul qFr) = .ok (g ^ q) :=
  computesPair_fast.mul_q P G.one hPv G2.one_valid inG2_gen

theorem api_pairing_of_logs (P : G1) (Q : G2) (hP : G1.Valid P) (hQ : G2.Valid Q) (a b : ℕ)
    (ha : G1.toAff P = a • G1.toAff (G.one : G1)) (hb : G2.toAff Q = b • G2.toAff (G.one : G2)) :
    Api.pairing P Q = .ok (pair (G1.toAff (G.one : G1)) (G2.toAff (G.one : G2)) ^ (a * b)) :=
  computesPair_pairing.smul _ _ inG2_gen P hP Q hQ a b ha hb

end Miller
end Sm9
