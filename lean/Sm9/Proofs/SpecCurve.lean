import Sm9.Proofs.SpecField
import Sm9.Proofs.MillerFrobenius
import Sm9.Proofs.SpecTwin
/-!
# The oracle's curve arithmetic (`Spec.slope2`, `ptAdd`, `lineEval`, `frobTwist`)
against Mathlib's `WeierstrassCurve.Affine` on the twist `Jac.Wb b2`, `Miller.lineSpec`, `Miller.frobTwist`
-/
namespace Sm9
namespace SpecCurve
open SpecField Miller WeierstrassCurve
open Fq12 (w ofFq ofFq2)

theorem neg_some {F : Type} [Field F] [DecidableEq F] (b : F) {x y : F} (h : (Jac.Wb b).Nonsingular x y) :
    -(Affine.Point.some x y h : (Jac.Wb b).Point)
      = .some x (-y) (by have := (Affine.nonsingular_neg (W' := Jac.Wb b) x y).2 h; rwa [Jac.negY_eq] at this) := by
  rw [Affine.Point.neg_some]
  congr 1
  exact Jac.negY_eq b x y

section law
variable {α F : Type} [Field F] [DecidableEq F] {K : Spec.FieldOps α} {rp : F → α} {b : F}
  (h : FieldEnc K rp) {enc : (Jac.Wb b).Point → Spec.Pt α} (h0 : enc 0 = none)
  (hs : ∀ {x y : F} (hn : (Jac.Wb b).Nonsingular x y), enc (.some x y hn) = some (rp x, rp y))
include h h0 hs

theorem enc_injective : Function.Injective enc := by
  intro A B e
  cases A <;> cases B <;>
    simp only [← Affine.Point.zero_def, h0, hs, reduceCtorEq, Option.some.injEq, Prod.mk.injEq] at e
  · rfl
  · obtain ⟨h1, h2⟩ := e
    cases h.inj h1; cases h.inj h2; rfl

theorem ptAdd_enc (A B : (Jac.Wb b).Point) : Spec.ptAdd K (enc A) (enc B) = enc (A + B) := by
  cases A with
  | zero =>
    show Spec.ptAdd K (enc 0) (enc B) = enc (0 + B)
    rw [zero_add, h0]; rfl
  | some x1 y1 h1 =>
    cases B with
    | zero =>
      show Spec.ptAdd K (enc _) (enc 0) = enc (_ + 0)
      rw [add_zero, h0, hs]; rfl
    | some x2 y2 h2 =>
      simp only [hs, Spec.ptAdd, h.sub, h.add, h.isZero, h.mul, h.inv, h.three, decide_eq_true_eq,
        sub_eq_zero, add_eq_zero_iff_eq_neg]
      by_cases hx : x1 = x2
      · by_cases hy : y1 = -y2
        · rw [if_pos hx, if_pos hy, Affine.Point.add_of_Y_eq hx (by rw [Jac.negY_eq]; exact hy), h0]
        · have hxy : ¬(x1 = x2 ∧ y1 = (Jac.Wb b).negY x2 y2) := by rw [Jac.negY_eq]; exact fun h => hy h.2
          rw [if_pos hx, if_neg hy, Affine.Point.add_some hxy, hs]
          simp only [Jac.addX_eq, Jac.addY_eq, Jac.slope_eq, if_pos hx, if_neg hy]
      · have hxy : ¬(x1 = x2 ∧ y1 = (Jac.Wb b).negY x2 y2) := fun h => hx h.1
        rw [if_neg hx, Affine.Point.add_some hxy, hs]
        simp only [Jac.addX_eq, Jac.addY_eq, Jac.slope_eq, if_neg hx]

theorem ptNeg_enc (A : (Jac.Wb b).Point) : Spec.ptNeg K (enc A) = enc (-A) := by
  cases A with
  | zero => show Spec.ptNeg K (enc 0) = enc (-0); rw [neg_zero, h0]; rfl
  | some x y hn => rw [neg_some, hs, hs, ← h.neg]; rfl

end law

/-- the twist `y² = x³ + 5u` -/
noncomputable abbrev W : Affine Fq2 := Jac.Wb b2

theorem slope2_eq (x1 y1 x2 y2 : Fq2) :
    Spec.slope2 (toQ2 x1, toQ2 y1) (toQ2 x2, toQ2 y2)
      = if x1 = x2 ∧ y1 = -y2 then none else some (toQ2 (W.slope x1 x2 y1 y2)) := by
  unfold Spec.slope2
  simp only [toQ2_sub, toQ2_add, toQ2_isZero, toQ2_mul, toQ2_inv, toQ2_three, decide_eq_true_eq,
    sub_eq_zero, add_eq_zero_iff_eq_neg]
  rw [Jac.slope_eq]
  by_cases hx : x1 = x2
  · by_cases hy : y1 = -y2
    · simp [hx, hy]
    · simp [hx, hy]
  · simp [hx]

noncomputable def encPt : W.Point → Spec.Pt Spec.Q2
  | .zero => none
  | .some x y _ => some (toQ2 x, toQ2 y)

theorem encPt_zero : encPt (0 : W.Point) = none := rfl
theorem encPt_some {x y : Fq2} (h : W.Nonsingular x y) : encPt (.some x y h) = some (toQ2 x, toQ2 y) := rfl

theorem encPt_injective : Function.Injective encPt := enc_injective encQ2 encPt_zero encPt_some

theorem ptAdd_eq (A B : W.Point) : Spec.ptAdd Spec.opsQ2 (encPt A) (encPt B) = encPt (A + B) :=
  ptAdd_enc encQ2 encPt_zero encPt_some A B

theorem ofNat_val (a : Fq) : Spec.Q2.ofNat a.val = toQ2 (Fq2.new a 0) := by
  rw [toQ2_ofNat, natCast_Fq2, cast_val]; rfl

/-- the body of the `some lam` arm of `Spec.lineEval` (with `w1 = F12.winv` abstracted, see
    `SpecField.toF12_winv`) is `Miller.lineSpec` -/
theorem lineEval_body (xT yT lam : Fq2) (xP yP : Fq) (W1 : Spec.F12) (hW : W1 = toF12 w⁻¹) :
    Spec.F12.add (Spec.F12.ofQ yP.val)
      (Spec.F12.add
        (Spec.F12.mul (Spec.F12.ofQ2 (Spec.Q2.neg (Spec.Q2.mul (toQ2 lam) (Spec.Q2.ofNat xP.val)))) W1)
        (Spec.F12.mul (Spec.F12.ofQ2 (Spec.Q2.sub (Spec.Q2.mul (toQ2 lam) (toQ2 xT)) (toQ2 yT)))
          (Spec.F12.mul W1 (Spec.F12.mul W1 W1))))
      = toF12 (lineSpec xT yT lam xP yP) := by
  subst hW
  rw [ofNat_val, toQ2_mul, toQ2_neg, toQ2_mul, toQ2_sub, toF12_ofQ2, toF12_ofQ2, toF12_ofQ,
    toF12_mul, toF12_mul, toF12_mul, toF12_mul, toF12_add, toF12_add, lineSpec_eq_w]
  refine congrArg toF12 ?_
  rw [map_neg, map_mul, ← Fq12.ofFq_eq_ofFq2, ← inv_pow]
  ring

-- declares `lineEvalT sl`, `frobTwistT tq` (the oracle's bodies with `slope2`, `F12.toQ2?` as parameters) and `lineEvalT.eq`, `frobTwistT.eq`
make_twin Sm9.Spec.lineEval as lineEvalT abstracting Sm9.Spec.slope2
make_twin Sm9.Spec.frobTwist as frobTwistT abstracting Sm9.Spec.F12.toQ2?

theorem lineEvalT_some (sl : Spec.Q2 × Spec.Q2 → Spec.Q2 × Spec.Q2 → Option Spec.Q2)
    (T Q : Spec.Q2 × Spec.Q2) (P : ℕ × ℕ) (lam : Spec.Q2) (h : sl T Q = some lam) :
    lineEvalT sl T Q P =
      Spec.F12.add (Spec.F12.ofQ P.2)
        (Spec.F12.add
          (Spec.F12.mul (Spec.F12.ofQ2 (Spec.Q2.neg (Spec.Q2.mul lam (Spec.Q2.ofNat P.1)))) Spec.F12.winv)
          (Spec.F12.mul (Spec.F12.ofQ2 (Spec.Q2.sub (Spec.Q2.mul lam T.1) T.2))
            (Spec.F12.mul Spec.F12.winv (Spec.F12.mul Spec.F12.winv Spec.F12.winv)))) := by
  unfold lineEvalT
  rw [h]
theorem lineEval_eq (xT yT xQ yQ : Fq2) (xP yP : Fq) (h : ¬(xT = xQ ∧ yT = -yQ)) :
    Spec.lineEval (toQ2 xT, toQ2 yT) (toQ2 xQ, toQ2 yQ) (xP.val, yP.val)
      = toF12 (lineSpec xT yT (W.slope xT xQ yT yQ) xP yP) := by
  have hs := slope2_eq xT yT xQ yQ
  rw [if_neg h] at hs
  rw [lineEvalT.eq, lineEvalT_some _ _ _ _ _ hs]
  exact lineEval_body xT yT _ xP yP Spec.F12.winv toF12_winv

theorem lineEvalT_none (sl : Spec.Q2 × Spec.Q2 → Spec.Q2 × Spec.Q2 → Option Spec.Q2)
    (T Q : Spec.Q2 × Spec.Q2) (P : ℕ × ℕ) (h : sl T Q = none) :
    lineEvalT sl T Q P =
      Spec.F12.add (Spec.F12.ofQ P.1)
        (Spec.F12.mul (Spec.F12.ofQ2 (Spec.Q2.neg T.1)) (Spec.F12.mul Spec.F12.winv Spec.F12.winv)) := by
  unfold lineEvalT
  rw [h]

theorem lineEval_vertical (xT yT xQ yQ : Fq2) (xP yP : Fq) (h : xT = xQ ∧ yT = -yQ) :
    Spec.lineEval (toQ2 xT, toQ2 yT) (toQ2 xQ, toQ2 yQ) (xP.val, yP.val)
      = toF12 (ofFq xP - ofFq2 xT * (w ^ 2)⁻¹) := by
  have hs := slope2_eq xT yT xQ yQ
  rw [if_pos h] at hs
  rw [lineEvalT.eq, lineEvalT_none _ _ _ _ hs]
  have key : ∀ W1 : Spec.F12, W1 = toF12 w⁻¹ →
      Spec.F12.add (Spec.F12.ofQ xP.val)
        (Spec.F12.mul (Spec.F12.ofQ2 (Spec.Q2.neg (toQ2 xT))) (Spec.F12.mul W1 W1))
      = toF12 (ofFq xP - ofFq2 xT * (w ^ 2)⁻¹) := by
    intro W1 hW
    subst hW
    rw [toQ2_neg, toF12_ofQ2, toF12_ofQ, toF12_mul, toF12_mul, toF12_add]
    refine congrArg toF12 ?_
    rw [map_neg, pow_two, mul_inv]
    ring
  exact key _ toF12_winv
theorem frobTwist_body (p : Fq2 × Fq2) (W1 : Spec.F12) (hW : W1 = toF12 w⁻¹) (e : ℕ) (he : e = q) :
    Spec.F12.mul (Spec.F12.pow (Spec.F12.mul (Spec.F12.ofQ2 (toQ2 p.1)) (Spec.F12.mul W1 W1)) e)
        (Spec.F12.mono 2 1) = toF12 (ofFq2 (Miller.frobTwist p).1) ∧
    Spec.F12.mul (Spec.F12.pow (Spec.F12.mul (Spec.F12.ofQ2 (toQ2 p.2))
        (Spec.F12.mul (Spec.F12.mul W1 W1) W1)) e) (Spec.F12.mono 3 1)
      = toF12 (ofFq2 (Miller.frobTwist p).2) := by
  subst hW
  rw [toF12_w_pow 2 (by norm_num), toF12_w_pow 3 (by norm_num)]
  simp only [toF12_ofQ2, toF12_mul, toF12_pow]
  have e2 : w⁻¹ * w⁻¹ = (w ^ 2)⁻¹ := by rw [pow_two, mul_inv]
  have e3 : w⁻¹ * w⁻¹ * w⁻¹ = (w ^ 3)⁻¹ := by rw [pow_succ, pow_two, mul_inv, mul_inv]
  have hx := frobTwist_untwist_x p
  have hy := frobTwist_untwist_y p
  rw [← he] at hx hy
  constructor
  · rw [e2, ← hx, inv_mul_cancel_right₀ (pow_ne_zero 2 Fq12.w_ne_zero)]
  · rw [e3, ← hy, inv_mul_cancel_right₀ (pow_ne_zero 3 Fq12.w_ne_zero)]
theorem frobTwistT_some (tq : Spec.F12 → Option Spec.Q2) (Q : Spec.Q2 × Spec.Q2) (x' y' : Spec.Q2)
    (hx : tq (Spec.F12.mul (Spec.F12.pow (Spec.F12.mul (Spec.F12.ofQ2 Q.1)
        (Spec.F12.mul Spec.F12.winv Spec.F12.winv)) Spec.q) (Spec.F12.mono 2 1)) = some x')
    (hy : tq (Spec.F12.mul (Spec.F12.pow (Spec.F12.mul (Spec.F12.ofQ2 Q.2)
        (Spec.F12.mul (Spec.F12.mul Spec.F12.winv Spec.F12.winv) Spec.F12.winv)) Spec.q) (Spec.F12.mono 3 1)) = some y') :
    frobTwistT tq Q = some (x', y') := by
  unfold frobTwistT
  simp only []
  rw [hx, hy]
theorem frobTwist_eq (p : Fq2 × Fq2) :
    Spec.frobTwist (toQ2 p.1, toQ2 p.2)
      = some (toQ2 (Miller.frobTwist p).1, toQ2 (Miller.frobTwist p).2) := by
  obtain ⟨h1, h2⟩ := frobTwist_body p Spec.F12.winv toF12_winv Spec.q SpecField.q_eq
  rw [frobTwistT.eq]
  apply frobTwistT_some
  · show Spec.F12.toQ2? (Spec.F12.mul (Spec.F12.pow (Spec.F12.mul (Spec.F12.ofQ2 (toQ2 p.1))
        (Spec.F12.mul Spec.F12.winv Spec.F12.winv)) Spec.q) (Spec.F12.mono 2 1)) = _
    rw [h1, toQ2?_toF12_ofFq2]
  · show Spec.F12.toQ2? (Spec.F12.mul (Spec.F12.pow (Spec.F12.mul (Spec.F12.ofQ2 (toQ2 p.2))
        (Spec.F12.mul (Spec.F12.mul Spec.F12.winv Spec.F12.winv) Spec.F12.winv)) Spec.q) (Spec.F12.mono 3 1)) = _
    rw [h2, toQ2?_toF12_ofFq2]

end SpecCurve
end Sm9
