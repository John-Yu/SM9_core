import Sm9.Model.Limbs
import Mathlib.Tactic.Ring
import Mathlib.Data.List.Induction
/-!
# Big-endian bytes

`beVal` and `beBytes` at a fixed length are mutually inverse.
-/
namespace Sm9

theorem Limb.digits_length (B n v : Nat) : (Limb.digits B n v).length = n := by
  induction n generalizing v with
  | zero => rfl
  | succ n ih => simp [Limb.digits, ih]

theorem beVal_foldl (acc : Nat) (bs : List UInt8) :
    bs.foldl (fun acc b => acc * 256 + b.toNat) acc = acc * 256 ^ bs.length + beVal bs := by
  induction bs generalizing acc with
  | nil => simp [beVal]
  | cons b bs ih =>
    unfold beVal
    rw [List.foldl_cons, List.foldl_cons, ih, ih (0 * 256 + b.toNat), List.length_cons, pow_succ]
    ring

theorem beVal_nil : beVal [] = 0 := rfl

theorem beVal_append (as bs : List UInt8) :
    beVal (as ++ bs) = beVal as * 256 ^ bs.length + beVal bs := by
  unfold beVal
  rw [List.foldl_append, beVal_foldl]
  rfl

theorem beVal_cons (b : UInt8) (bs : List UInt8) :
    beVal (b :: bs) = b.toNat * 256 ^ bs.length + beVal bs := by
  have := beVal_append [b] bs
  simpa [beVal] using this

theorem beVal_lt (bs : List UInt8) : beVal bs < 256 ^ bs.length := by
  induction bs with
  | nil => simp [beVal]
  | cons b bs ih =>
    rw [beVal_cons, List.length_cons, pow_succ]
    have hb : b.toNat < 256 := UInt8.toNat_lt b
    have h1 : (b.toNat + 1) * 256 ^ bs.length ≤ 256 * 256 ^ bs.length :=
      Nat.mul_le_mul_right _ hb
    have h2 : (b.toNat + 1) * 256 ^ bs.length = b.toNat * 256 ^ bs.length + 256 ^ bs.length := by ring
    rw [Nat.mul_comm (256 ^ bs.length) 256]
    omega

theorem beVal_replicate_zero (k : Nat) : beVal (List.replicate k (0 : UInt8)) = 0 := by
  induction k with
  | zero => rfl
  | succ k ih => rw [List.replicate_succ, beVal_cons, ih]; simp

theorem beBytes_length (len n : Nat) : (beBytes len n).length = len := by
  unfold beBytes
  rw [List.length_map, List.length_reverse, Limb.digits_length]

theorem beVal_concat (l : List UInt8) (b : UInt8) : beVal (l ++ [b]) = beVal l * 256 + b.toNat := by
  unfold beVal
  rw [List.foldl_append]
  rfl

theorem beBytes_succ (len n : Nat) :
    beBytes (len + 1) n = beBytes len (n / 256) ++ [UInt8.ofNat (n % 256)] := by
  unfold beBytes
  simp [Limb.digits]

theorem beVal_beBytes_mod (len n : Nat) : beVal (beBytes len n) = n % 256 ^ len := by
  induction len generalizing n with
  | zero => simp [beBytes, Limb.digits, beVal, Nat.mod_one]
  | succ len ih =>
    rw [beBytes_succ, beVal_concat, ih]
    have hb : (UInt8.ofNat (n % 256)).toNat = n % 256 := by
      rw [UInt8.toNat_ofNat']
      exact Nat.mod_eq_of_lt (Nat.mod_lt _ (by decide))
    rw [hb, pow_succ, Nat.mul_comm (256 ^ len) 256, Nat.mod_mul]
    omega

theorem beVal_beBytes (len n : Nat) (h : n < 256 ^ len) : beVal (beBytes len n) = n := by
  rw [beVal_beBytes_mod, Nat.mod_eq_of_lt h]

theorem beVal_pad (k : Nat) (bs : List UInt8) : beVal (List.replicate k (0 : UInt8) ++ bs) = beVal bs := by
  rw [beVal_append, beVal_replicate_zero, zero_mul, zero_add]

theorem length_pad (k : Nat) (bs : List UInt8) (h : bs.length ≤ k) :
    (List.replicate (k - bs.length) (0 : UInt8) ++ bs).length = k := by
  rw [List.length_append, List.length_replicate]; omega

theorem beBytes_zero (n : Nat) : beBytes 0 n = [] := rfl

theorem beBytes_beVal : ∀ {len : Nat} {bs : List UInt8}, bs.length = len → beBytes len (beVal bs) = bs := by
  intro len bs
  induction bs using List.reverseRecOn generalizing len with
  | nil => intro h; subst h; rfl
  | append_singleton l b ih =>
    intro h
    rw [List.length_append, List.length_singleton] at h
    subst h
    rw [beBytes_succ, beVal_concat]
    have hb : b.toNat < 256 := UInt8.toNat_lt b
    have h1 : (beVal l * 256 + b.toNat) / 256 = beVal l := by omega
    have h2 : (beVal l * 256 + b.toNat) % 256 = b.toNat := by omega
    rw [h1, h2, ih rfl, UInt8.ofNat_toNat]

theorem beVal_inj {a b : List UInt8} (hl : a.length = b.length) (h : beVal a = beVal b) : a = b := by
  rw [← beBytes_beVal (bs := a) rfl, ← beBytes_beVal (bs := b) rfl, hl, h]

theorem beBytes_inj {len m n : Nat} (hm : m < 256 ^ len) (hn : n < 256 ^ len)
    (h : beBytes len m = beBytes len n) : m = n := by
  rw [← beVal_beBytes len m hm, ← beVal_beBytes len n hn, h]

theorem take_append_of_length {α} {a b : List α} {n : Nat} (h : a.length = n) : (a ++ b).take n = a := by
  subst h; exact List.take_left

theorem drop_append_of_length {α} {a b : List α} {n : Nat} (h : a.length = n) : (a ++ b).drop n = b := by
  subst h; exact List.drop_left

theorem take_drop_eq_iff {α} {bs a b : List α} {n : Nat} (ha : a.length = n) :
    bs.take n = a ∧ bs.drop n = b ↔ bs = a ++ b := by
  constructor
  · rintro ⟨h1, h2⟩; rw [← List.take_append_drop n bs, h1, h2]
  · rintro rfl; exact ⟨take_append_of_length ha, drop_append_of_length ha⟩

end Sm9
