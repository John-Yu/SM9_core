import Sm9.Proofs.Jacobian
/-!
For `σ(b)·c⁶ = b` the map `(x, y) ↦ (σ(x)·c², σ(y)·c³)` is an endomorphism of Mathlib's group of points of `y² = x³ + b`
(`ptMapHom`): slope, `addX`, `addY` transform homogeneously.  The Frobenius of the twist is the case `σ` the conjugation of
`Fq2`, `c = π₁⁻¹`.
-/
namespace Sm9
namespace Miller
open WeierstrassCurve

section twistmap
-- `nonsingular_twistmap`, `twist_x_inj`, `twist_y_neg` do not use `[DecidableEq F]`; they keep the binder, which `ptMap` takes from the first
set_option linter.unusedSectionVars false
variable {F : Type} [Field F] [DecidableEq F] (b : F) (σ : F →+* F) (c : F)

theorem nonsingular_twistmap (hc : c ≠ 0) (hb : σ b * c ^ 6 = b) {x y : F}
    (h : (Jac.Wb b).Nonsingular x y) : (Jac.Wb b).Nonsingular (σ x * c ^ 2) (σ y * c ^ 3) := by
  rw [Jac.nonsingular_iff] at h ⊢
  obtain ⟨he, hs⟩ := h
  refine ⟨?_, ?_⟩
  · have h' := congrArg σ he
    simp only [map_pow, map_add] at h'
    linear_combination (c ^ 6) * h' + hb
  · rcases hs with hs | hs
    · left
      intro h0
      apply hs
      have : σ (3 * x ^ 2) * c ^ 4 = 0 := by
        simp only [map_mul, map_pow, map_ofNat]
        linear_combination h0
      rcases mul_eq_zero.mp this with h1 | h1
      · exact (map_eq_zero σ).1 h1
      · exact absurd (pow_eq_zero_iff (by norm_num) |>.mp h1) hc
    · right
      intro h0
      apply hs
      have : σ (y + y) * c ^ 3 = 0 := by
        simp only [map_add]
        linear_combination h0
      rcases mul_eq_zero.mp this with h1 | h1
      · have := (map_eq_zero σ).1 h1
        linear_combination this
      · exact absurd (pow_eq_zero_iff (by norm_num) |>.mp h1) hc

noncomputable def ptMap (hc : c ≠ 0) (hb : σ b * c ^ 6 = b) : (Jac.Wb b).Point → (Jac.Wb b).Point
  | .zero => 0
  | .some _ _ h => .some _ _ (nonsingular_twistmap b σ c hc hb h)

theorem ptMap_zero (hc : c ≠ 0) (hb : σ b * c ^ 6 = b) : ptMap b σ c hc hb 0 = 0 := rfl

theorem ptMap_some (hc : c ≠ 0) (hb : σ b * c ^ 6 = b) {x y : F} (h : (Jac.Wb b).Nonsingular x y) :
    ptMap b σ c hc hb (.some x y h) = .some _ _ (nonsingular_twistmap b σ c hc hb h) := rfl

theorem twist_x_inj (hc : c ≠ 0) {x1 x2 : F} : σ x1 * c ^ 2 = σ x2 * c ^ 2 ↔ x1 = x2 := by
  constructor
  · intro h
    exact σ.injective (mul_right_cancel₀ (pow_ne_zero 2 hc) h)
  · intro h; rw [h]

theorem twist_y_neg (hc : c ≠ 0) {y1 y2 : F} : σ y1 * c ^ 3 = -(σ y2 * c ^ 3) ↔ y1 = -y2 := by
  constructor
  · intro h
    have : σ y1 * c ^ 3 = σ (-y2) * c ^ 3 := by rw [map_neg]; linear_combination h
    exact σ.injective (mul_right_cancel₀ (pow_ne_zero 3 hc) this)
  · intro h; rw [h, map_neg]; ring

theorem twist_slope (hc : c ≠ 0) (x1 x2 y1 y2 : F) :
    (Jac.Wb b).slope (σ x1 * c ^ 2) (σ x2 * c ^ 2) (σ y1 * c ^ 3) (σ y2 * c ^ 3)
      = σ ((Jac.Wb b).slope x1 x2 y1 y2) * c := by
  unfold Affine.slope
  simp only [Jac.negY_eq, twist_x_inj σ c hc, twist_y_neg σ c hc]
  by_cases hx : x1 = x2
  · by_cases hy : y1 = -y2
    · rw [if_pos hx, if_pos hy, if_pos hx, if_pos hy, map_zero, zero_mul]
    · rw [if_pos hx, if_neg hy, if_pos hx, if_neg hy]
      simp only [Jac.Wb, mul_zero, zero_mul, add_zero, sub_zero, map_div₀, map_mul, map_pow, map_sub, map_neg, map_ofNat]
      by_cases hD : σ y1 - -σ y1 = 0
      · have hD' : σ y1 * c ^ 3 - -(σ y1 * c ^ 3) = 0 := by linear_combination (c ^ 3) * hD
        rw [hD, hD', div_zero, div_zero, zero_mul]
      · have hD' : σ y1 * c ^ 3 - -(σ y1 * c ^ 3) ≠ 0 := by
          intro h0; apply hD
          have : (σ y1 - -σ y1) * c ^ 3 = 0 := by linear_combination h0
          rcases mul_eq_zero.mp this with h1 | h1
          · exact h1
          · exact absurd (pow_eq_zero_iff (by norm_num) |>.mp h1) hc
        field_simp
  · rw [if_neg hx, if_neg hx]
    have hd : x1 - x2 ≠ 0 := sub_ne_zero.mpr hx
    have hd' : σ (x1 - x2) ≠ 0 := (map_ne_zero σ).2 hd
    simp only [map_div₀, map_sub] at hd' ⊢
    field_simp

theorem ptMap_add (hc : c ≠ 0) (hb : σ b * c ^ 6 = b) (A B : (Jac.Wb b).Point) :
    ptMap b σ c hc hb (A + B) = ptMap b σ c hc hb A + ptMap b σ c hc hb B := by
  cases A with
  | zero => 
    show ptMap b σ c hc hb (0 + B) = 0 + _
    rw [zero_add, zero_add]
  | some x1 y1 h1 =>
    cases B with
    | zero =>
      show ptMap b σ c hc hb (_ + 0) = _ + 0
      rw [add_zero, add_zero]
    | some x2 y2 h2 =>
      rw [ptMap_some, ptMap_some]
      by_cases hxy : x1 = x2 ∧ y1 = (Jac.Wb b).negY x2 y2
      · rw [Affine.Point.add_of_Y_eq hxy.1 hxy.2, ptMap_zero]
        rw [Affine.Point.add_of_Y_eq ((twist_x_inj σ c hc).2 hxy.1)]
        rw [Jac.negY_eq]
        exact (twist_y_neg σ c hc).2 (by rw [hxy.2, Jac.negY_eq])
      · have hxy' : ¬(σ x1 * c ^ 2 = σ x2 * c ^ 2 ∧ σ y1 * c ^ 3 = (Jac.Wb b).negY (σ x2 * c ^ 2) (σ y2 * c ^ 3)) := by
          rw [Jac.negY_eq, twist_x_inj σ c hc, twist_y_neg σ c hc]
          rw [Jac.negY_eq] at hxy
          exact hxy
        rw [Affine.Point.add_some hxy, Affine.Point.add_some hxy', ptMap_some]
        simp only [Affine.Point.some.injEq]
        rw [twist_slope b σ c hc]
        generalize (Jac.Wb b).slope x1 x2 y1 y2 = lam
        simp only [Affine.addX, Affine.addY, Affine.negAddY, Affine.negY, Jac.Wb, zero_mul, add_zero, sub_zero,
          map_add, map_sub, map_mul, map_pow, map_neg]
        constructor <;> ring

noncomputable def ptMapHom (hc : c ≠ 0) (hb : σ b * c ^ 6 = b) : (Jac.Wb b).Point →+ (Jac.Wb b).Point where
  toFun := ptMap b σ c hc hb
  map_zero' := rfl
  map_add' := ptMap_add b σ c hc hb

end twistmap

end Miller
end Sm9
