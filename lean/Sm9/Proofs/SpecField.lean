import Sm9.Spec.Spec
import Sm9.Proofs.Frobenius
/-!
# The oracle's field arithmetic (`Sm9.Spec`) is the arithmetic of the model's tower

`Spec.Q2 = ℕ × ℕ` and `Spec.F12 = Array ℕ` against `Fq2`, `Fq12`: `toQ2`, `toF12` give the canonical pair / array
of an element, `evQ2`, `ev` the element that an *arbitrary* pair / array denotes.  Each operation of the oracle is
shown, on arbitrary arguments, to return the canonical representative of the field operation on what they denote
(`Q2.mul_eq`, `F12.mul_eq`, `F12.pow_eq`, …); the equations `toQ2_*`, `toF12_*` are the instances at canonical arguments.
-/
namespace Sm9
namespace SpecField
open Sm9.Spec (powm invm negm subm)

theorem q_eq : Spec.q = q := by decide +kernel
theorem q_pos : 0 < Spec.q := by decide +kernel
theorem r_eq : Spec.r = r := by decide +kernel

/-- the oracle's right-to-left square-and-multiply loop (`powm`, `Q2.pow`, `F12.pow`, `ptMul`), over any `mul` -/
def sqmul {α : Type} (mul : α → α → α) (one x : α) (e : ℕ) : α := Id.run do
  let mut acc := one
  let mut base := x
  let mut e := e
  for _ in [0:e.log2 + 1] do
    if e % 2 == 1 then acc := mul acc base
    base := mul base base
    e := e / 2
  return acc

def powStep {α : Type} (mul : α → α → α) (s : α × α × ℕ) : α × α × ℕ :=
  (if s.2.2 % 2 = 1 then mul s.1 s.2.1 else s.1, mul s.2.1 s.2.1, s.2.2 / 2)

theorem sqmul_eq_iterate {α : Type} (mul : α → α → α) (one x : α) (e : ℕ) :
    sqmul mul one x e = ((powStep mul)^[e.log2 + 1] (one, x, e)).1 := by
  unfold sqmul
  simp only [Std.Legacy.Range.forIn_eq_forIn_range', Std.Legacy.Range.size]
  have hf : (fun (_ : ℕ) (s : α × α × ℕ) =>
      if (s.2.2 % 2 == 1) = true then
        (pure (ForInStep.yield (mul s.1 s.2.1, mul s.2.1 s.2.1, s.2.2 / 2)) : Id _)
      else pure (ForInStep.yield (s.1, mul s.2.1 s.2.1, s.2.2 / 2)))
      = fun _ s => pure (ForInStep.yield (powStep mul s)) := by
    funext _ s
    unfold powStep
    by_cases h : s.2.2 % 2 = 1 <;> simp [h]
  rw [hf, List.forIn_pure_yield_eq_foldl, List.foldl_const, List.length_range', Nat.sub_zero, Nat.add_sub_cancel,
    Nat.div_one]
  rfl

/-- the accumulator is related by `A`, the running square by `B`: in `F12.pow` the first is canonical from the start, the
    second only after the first squaring -/
theorem powStep_iterate {α M : Type} [Monoid M] (mul : α → α → α) (A B : α → M → Prop)
    (hAB : ∀ a b m n, A a m → B b n → A (mul a b) (m * n)) (hBB : ∀ b n, B b n → B (mul b b) (n * n)) (g : M) (n : ℕ) :
    ∀ (acc base : α) (c m k : ℕ), A acc (g ^ c) → B base (g ^ m) →
      A ((powStep mul)^[n] (acc, base, k)).1 (g ^ (c + m * (k % 2 ^ n))) := by
  induction n with
  | zero => intro acc base c m k ha _; simpa [Nat.mod_one] using ha
  | succ n ih =>
    intro acc base c m k ha hb
    have e : c + m * (k % 2 ^ (n + 1)) = c + m * (k % 2) + (m + m) * (k / 2 % 2 ^ n) := by
      rw [pow_succ', Nat.mod_mul]; ring
    rw [Function.iterate_succ_apply, e]
    refine ih _ _ _ _ _ ?_ (by rw [pow_add]; exact hBB _ _ hb)
    dsimp only [powStep]
    rcases Nat.mod_two_eq_zero_or_one k with h | h <;> rw [h]
    · simpa using ha
    · rw [if_pos rfl, mul_one, pow_add]; exact hAB _ _ _ _ ha hb

theorem sqmul_rel₂ {α M : Type} [Monoid M] (mul : α → α → α) (A B : α → M → Prop)
    (hAB : ∀ a b m n, A a m → B b n → A (mul a b) (m * n)) (hBB : ∀ b n, B b n → B (mul b b) (n * n))
    {one x : α} {g : M} (h1 : A one 1) (hx : B x g) (e : ℕ) : A (sqmul mul one x e) (g ^ e) := by
  have h := powStep_iterate mul A B hAB hBB g (e.log2 + 1) one x 0 1 e (by rwa [pow_zero]) (by rwa [pow_one])
  rwa [Nat.mod_eq_of_lt Nat.lt_log2_self, zero_add, one_mul, ← sqmul_eq_iterate] at h

theorem sqmul_rel {α M : Type} [Monoid M] (mul : α → α → α) (R : α → M → Prop)
    (hmul : ∀ a b m n, R a m → R b n → R (mul a b) (m * n))
    {one x : α} {g : M} (h1 : R one 1) (hx : R x g) (e : ℕ) : R (sqmul mul one x e) (g ^ e) :=
  sqmul_rel₂ mul R R hmul (fun b n h => hmul b b n n h h) h1 hx e

theorem val_lt (a : Fq) : a.val < Spec.q := by rw [q_eq]; exact a.isLt

theorem cast_val (a : Fq) : ((a.val : ℕ) : Fq) = a := by
  have h : ∀ (a : Fin q), @Nat.cast (Fin q) (Fin.instCommRing q).toNatCast (Fin.val a) = a := by
    intro a; open Fin.NatCast in exact Fin.cast_val_eq_self a
  exact h a

theorem val_cast (n : ℕ) : (n : Fq).val = n % Spec.q := by
  rw [q_eq]
  have h : Fin.val (@Nat.cast (Fin q) (Fin.instCommRing q).toNatCast n) = n % q := by
    open Fin.NatCast in exact Fin.val_natCast n q
  exact h

theorem val_cast_of_lt {n : ℕ} (h : n < Spec.q) : (n : Fq).val = n := by
  rw [val_cast, Nat.mod_eq_of_lt h]

theorem cast_q : ((Spec.q : ℕ) : Fq) = 0 := by
  rw [q_eq]; exact CharP.cast_eq_zero Fq q

@[simp] theorem cast_mod (n : ℕ) : ((n % Spec.q : ℕ) : Fq) = n := by
  rw [q_eq]; exact (CharP.cast_eq_mod Fq q n).symm

@[simp] theorem cast_subm (x y : ℕ) : ((subm Spec.q x y : ℕ) : Fq) = (x : Fq) - y := by
  unfold subm
  have h : y % Spec.q ≤ x % Spec.q + Spec.q := by
    have := Nat.mod_lt y q_pos; omega
  rw [cast_mod, Nat.cast_sub h, Nat.cast_add, cast_mod, cast_mod, cast_q, add_zero]

@[simp] theorem cast_negm (x : ℕ) : ((negm Spec.q x : ℕ) : Fq) = -(x : Fq) := by
  unfold negm
  have h : x % Spec.q ≤ Spec.q := (Nat.mod_lt x q_pos).le
  rw [cast_mod, Nat.cast_sub h, cast_mod, cast_q, zero_sub]

theorem subm_lt (x y : ℕ) : subm Spec.q x y < Spec.q := Nat.mod_lt _ q_pos
theorem negm_lt (x : ℕ) : negm Spec.q x < Spec.q := Nat.mod_lt _ q_pos
theorem mod_lt (x : ℕ) : x % Spec.q < Spec.q := Nat.mod_lt _ q_pos

theorem powm_eq_sqmul (p x e : ℕ) : powm p x e = sqmul (fun a b => a * b % p) (1 % p) (x % p) e := rfl

theorem powm_spec (x e : ℕ) : powm Spec.q x e < Spec.q ∧ ((powm Spec.q x e : ℕ) : Fq) = (x : Fq) ^ e :=
  powm_eq_sqmul .. ▸ sqmul_rel (fun a b => a * b % Spec.q) (fun n (a : Fq) => n < Spec.q ∧ (n : Fq) = a)
    (fun a b m n ha hb => ⟨mod_lt _, by rw [cast_mod, Nat.cast_mul, ha.2, hb.2]⟩)
    ⟨mod_lt _, by rw [cast_mod, Nat.cast_one]⟩ ⟨mod_lt _, cast_mod x⟩ e

@[simp] theorem cast_powm (x e : ℕ) : ((powm Spec.q x e : ℕ) : Fq) = (x : Fq) ^ e := (powm_spec x e).2
theorem powm_lt (x e : ℕ) : powm Spec.q x e < Spec.q := (powm_spec x e).1

theorem Fq_pow_sub_two (a : Fq) : a ^ (q - 2) = a⁻¹ := by
  by_cases h : a = 0
  · subst h
    rw [inv_zero]; exact zero_pow (by decide +kernel)
  · exact eq_inv_of_mul_eq_one_left (Fq.pow_sub_two_mul a h)

@[simp] theorem cast_invm (x : ℕ) : ((invm Spec.q x : ℕ) : Fq) = (x : Fq)⁻¹ := by
  unfold invm
  rw [cast_powm, q_eq, Fq_pow_sub_two]

theorem invm_lt (x : ℕ) : invm Spec.q x < Spec.q := powm_lt _ _

theorem eq_val_of_cast {n : ℕ} {a : Fq} (hn : n < Spec.q) (h : (n : Fq) = a) : n = a.val := by
  rw [← h, val_cast_of_lt hn]

theorem val_add (a b : Fq) : (a.val + b.val) % Spec.q = (a + b).val :=
  eq_val_of_cast (mod_lt _) (by rw [cast_mod, Nat.cast_add, cast_val, cast_val])
theorem val_sub (a b : Fq) : Spec.subm Spec.q a.val b.val = (a - b).val :=
  eq_val_of_cast (subm_lt _ _) (by rw [cast_subm, cast_val, cast_val])
theorem val_mul (a b : Fq) : a.val * b.val % Spec.q = (a * b).val :=
  eq_val_of_cast (mod_lt _) (by rw [cast_mod, Nat.cast_mul, cast_val, cast_val])
theorem val_neg (a : Fq) : Spec.negm Spec.q a.val = (-a).val :=
  eq_val_of_cast (negm_lt _) (by rw [cast_negm, cast_val])
theorem val_inv (a : Fq) : Spec.invm Spec.q a.val = (a⁻¹).val :=
  eq_val_of_cast (invm_lt _) (by rw [cast_invm, cast_val])
theorem val_injective : Function.Injective (fun a : Fq => a.val) := fun a b h => by
  rw [← cast_val a, ← cast_val b]; exact congrArg _ h
theorem val_isZero (a : Fq) : (a.val % Spec.q == 0) = decide (a = 0) := by
  rw [Bool.eq_iff_iff, beq_iff_eq, decide_eq_true_iff, Nat.mod_eq_of_lt (val_lt a)]
  constructor
  · intro h; rw [← cast_val a, h, Nat.cast_zero]
  · intro h; rw [h]; exact Fq.zero_val
theorem mod_eq_iff_cast (m n : ℕ) : m % Spec.q = n % Spec.q ↔ (m : Fq) = (n : Fq) := by
  constructor
  · intro h; rw [← cast_mod m, h, cast_mod]
  · intro h; rw [← val_cast, ← val_cast, h]

def toQ2 (a : Fq2) : Spec.Q2 := (a.c0.val, a.c1.val)

noncomputable def evQ2 (x : Spec.Q2) : Fq2 := ⟨(x.1 : Fq), (x.2 : Fq)⟩

def CanonQ2 (x : Spec.Q2) : Prop := x.1 < Spec.q ∧ x.2 < Spec.q

theorem canon_toQ2 (a : Fq2) : CanonQ2 (toQ2 a) := ⟨val_lt _, val_lt _⟩
@[simp] theorem evQ2_toQ2 (a : Fq2) : evQ2 (toQ2 a) = a := by
  unfold evQ2 toQ2; ext <;> simp only [cast_val]
theorem toQ2_evQ2 {x : Spec.Q2} (h : CanonQ2 x) : toQ2 (evQ2 x) = x := by
  unfold evQ2 toQ2
  exact Prod.ext (val_cast_of_lt h.1) (val_cast_of_lt h.2)
theorem toQ2_injective : Function.Injective toQ2 := fun a b h => by
  rw [← evQ2_toQ2 a, h, evQ2_toQ2]
theorem eq_toQ2 {x : Spec.Q2} {a : Fq2} (hc : CanonQ2 x) (h : evQ2 x = a) : x = toQ2 a := by
  rw [← h, toQ2_evQ2 hc]

theorem natCast_Fq2 (n : ℕ) : (n : Fq2) = ⟨(n : Fq), 0⟩ := by
  induction n with
  | zero => ext <;> simp
  | succ n ih => rw [Nat.cast_succ, ih]; ext <;> simp

theorem Fq2_inv_eq (a : Fq2) :
    a⁻¹ = ⟨a.c0 * (a.c0 * a.c0 + (a.c1 * a.c1 + a.c1 * a.c1))⁻¹,
           -(a.c1 * (a.c0 * a.c0 + (a.c1 * a.c1 + a.c1 * a.c1))⁻¹)⟩ := by
  by_cases h : a = 0
  · subst h; rw [inv_zero]; ext <;> simp
  · have h1 := Fq2.inverse_eq_inv a h
    unfold Fq2.inverse at h1
    rw [Fq.inverse_eq_inv _ (Fq2.norm_ne_zero a h)] at h1
    simp only [Option.map_some, Option.some.injEq, Fq.squared_def, Fq.double_def, Fq2.new] at h1
    exact h1.symm

theorem Q2.add_eq (x y : Spec.Q2) : Spec.Q2.add x y = toQ2 (evQ2 x + evQ2 y) :=
  eq_toQ2 ⟨mod_lt _, mod_lt _⟩ (by unfold evQ2 Spec.Q2.add; ext <;> simp)
theorem Q2.sub_eq (x y : Spec.Q2) : Spec.Q2.sub x y = toQ2 (evQ2 x - evQ2 y) :=
  eq_toQ2 ⟨subm_lt _ _, subm_lt _ _⟩ (by unfold evQ2 Spec.Q2.sub; ext <;> simp)
theorem Q2.neg_eq (x : Spec.Q2) : Spec.Q2.neg x = toQ2 (-evQ2 x) :=
  eq_toQ2 ⟨negm_lt _, negm_lt _⟩ (by unfold evQ2 Spec.Q2.neg; ext <;> simp)
theorem Q2.mul_eq (x y : Spec.Q2) : Spec.Q2.mul x y = toQ2 (evQ2 x * evQ2 y) :=
  eq_toQ2 ⟨subm_lt _ _, mod_lt _⟩ (by
    unfold evQ2 Spec.Q2.mul
    ext
    · simp only [cast_subm, Nat.cast_mul, Nat.cast_ofNat, Fq2.mul_c0]; ring
    · simp only [cast_mod, Nat.cast_mul, Nat.cast_add, Fq2.mul_c1])
theorem Q2.inv_eq (x : Spec.Q2) : Spec.Q2.inv x = toQ2 (evQ2 x)⁻¹ :=
  eq_toQ2 ⟨mod_lt _, negm_lt _⟩ (by
    rw [Fq2_inv_eq]
    unfold evQ2 Spec.Q2.inv
    ext
    · simp only [cast_mod, cast_invm, Nat.cast_mul, Nat.cast_add, Nat.cast_ofNat]; ring
    · simp only [cast_mod, cast_negm, cast_invm, Nat.cast_mul, Nat.cast_add, Nat.cast_ofNat]; ring)
theorem Q2.isZero_iff (x : Spec.Q2) : Spec.Q2.isZero x = true ↔ evQ2 x = 0 := by
  unfold Spec.Q2.isZero evQ2
  rw [Bool.and_eq_true, beq_iff_eq, beq_iff_eq, Fq2.ext_iff]
  have key : ∀ n : ℕ, n % Spec.q = 0 ↔ (n : Fq) = 0 := by
    intro n
    rw [q_eq, ← Nat.dvd_iff_mod_eq_zero]
    exact (CharP.cast_eq_zero_iff Fq q n).symm
  rw [key, key]; rfl

theorem toQ2_add (a b : Fq2) : Spec.Q2.add (toQ2 a) (toQ2 b) = toQ2 (a + b) := by
  rw [Q2.add_eq, evQ2_toQ2, evQ2_toQ2]
theorem toQ2_sub (a b : Fq2) : Spec.Q2.sub (toQ2 a) (toQ2 b) = toQ2 (a - b) := by
  rw [Q2.sub_eq, evQ2_toQ2, evQ2_toQ2]
theorem toQ2_neg (a : Fq2) : Spec.Q2.neg (toQ2 a) = toQ2 (-a) := by
  rw [Q2.neg_eq, evQ2_toQ2]
theorem toQ2_mul (a b : Fq2) : Spec.Q2.mul (toQ2 a) (toQ2 b) = toQ2 (a * b) := by
  rw [Q2.mul_eq, evQ2_toQ2, evQ2_toQ2]
theorem toQ2_inv (a : Fq2) : Spec.Q2.inv (toQ2 a) = toQ2 a⁻¹ := by
  rw [Q2.inv_eq, evQ2_toQ2]
theorem toQ2_ofNat (n : ℕ) : Spec.Q2.ofNat n = toQ2 (n : Fq2) :=
  eq_toQ2 ⟨mod_lt _, q_pos⟩ (by
    rw [natCast_Fq2]; unfold evQ2 Spec.Q2.ofNat; simp only [cast_mod, Nat.cast_zero])
theorem toQ2_isZero (a : Fq2) : Spec.Q2.isZero (toQ2 a) = decide (a = 0) := by
  rw [Bool.eq_iff_iff, Q2.isZero_iff, evQ2_toQ2, decide_eq_true_iff]

/-- `rp` represents the field `F` faithfully in the oracle's carrier `α`, and `K`'s operations are the field's on representatives:
    what the point law of SpecCurve needs of `Spec.opsQ` (`encQ`) and `Spec.opsQ2` (`encQ2`), so that it is proved once for both curves -/
structure FieldEnc {α F : Type} [Field F] [DecidableEq F] (K : Spec.FieldOps α) (rp : F → α) : Prop where
  inj : Function.Injective rp
  add : ∀ a b, K.add (rp a) (rp b) = rp (a + b)
  sub : ∀ a b, K.sub (rp a) (rp b) = rp (a - b)
  mul : ∀ a b, K.mul (rp a) (rp b) = rp (a * b)
  neg : ∀ a, K.neg (rp a) = rp (-a)
  inv : ∀ a, K.inv (rp a) = rp a⁻¹
  isZero : ∀ a, K.isZero (rp a) = decide (a = 0)
  three : K.ofNat 3 = rp 3

theorem val_three : 3 % Spec.q = (3 : Fq).val := by
  rw [← val_cast]; norm_num
theorem toQ2_three : Spec.Q2.ofNat 3 = toQ2 (3 : Fq2) := by
  rw [toQ2_ofNat]; norm_num

theorem encQ : FieldEnc Spec.opsQ Fq.val :=
  ⟨val_injective, val_add, val_sub, val_mul, val_neg, val_inv, val_isZero, val_three⟩
theorem encQ2 : FieldEnc Spec.opsQ2 toQ2 :=
  ⟨toQ2_injective, toQ2_add, toQ2_sub, toQ2_mul, toQ2_neg, toQ2_inv, toQ2_isZero, toQ2_three⟩

theorem get_set (b : Array ℕ) (k v i : ℕ) :
    (b.set! k v)[i]! = if k = i ∧ k < b.size then v else b[i]! := by
  simp only [Array.set!_eq_setIfInBounds, getElem!_def, Array.getElem?_setIfInBounds]
  by_cases h : k = i
  · subst h
    by_cases h2 : k < b.size
    · simp [h2]
    · simp [h2]
  · simp [h]
theorem get_oob (b : Array ℕ) (i : ℕ) (h : b.size ≤ i) : b[i]! = 0 := by
  simp [h]
theorem size_set (b : Array ℕ) (k v : ℕ) : (b.set! k v).size = b.size := by simp
theorem get_replicate (m i : ℕ) : (Array.replicate m 0 : Array ℕ)[i]! = 0 := by
  simp only [getElem!_def, Array.getElem?_replicate]
  by_cases h : i < m <;> simp [h]

theorem array12_ext (x y : Array ℕ) (hx : x.size = 12) (hy : y.size = 12)
    (h : ∀ i < 12, x[i]! = y[i]!) : x = y := by
  apply Array.ext (by rw [hx, hy])
  intro i h1 h2
  have := h i (by omega)
  rwa [getElem!_pos x i h1, getElem!_pos y i h2] at this

theorem foldl_set (h : ℕ → ℕ) (l : List ℕ) : ∀ b : Array ℕ,
    (l.foldl (fun b i => b.set! i (h i)) b).size = b.size ∧
    ∀ k, k < b.size → (l.foldl (fun b i => b.set! i (h i)) b)[k]! = if k ∈ l then h k else b[k]! := by
  induction l with
  | nil => intro b; simp
  | cons a l ih =>
    intro b
    obtain ⟨h1, h2⟩ := ih (b.set! a (h a))
    rw [size_set] at h1 h2
    refine ⟨h1, fun k hk => ?_⟩
    rw [List.foldl_cons, h2 k hk, get_set]
    by_cases hl : k ∈ l
    · simp [hl]
    · by_cases ha : a = k
      · subst ha; simp [hk]
      · simp [hl, ha, Ne.symm ha]

open Fq12 (w ofFq ofFq2)

def Canon (x : Spec.F12) : Prop := x.size = 12 ∧ ∀ i < 12, x[i]! < Spec.q

/-- `Σ_{i<n} x[i] wⁱ` for an arbitrary array (missing entries read as `0`) -/
noncomputable def evN (n : ℕ) (x : Array ℕ) : Fq12 := ∑ i ∈ Finset.range n, (x[i]! : Fq12) * w ^ i

noncomputable def ev (x : Spec.F12) : Fq12 := evN 12 x

/-- coordinate vector in the basis `1, w, …, w¹¹`: the coefficient of `w^(i+3j+6k)` is `g.c_i.c_j.c_k` -/
def toF12 (g : Fq12) : Spec.F12 :=
  #[g.c0.c0.c0.val, g.c1.c0.c0.val, g.c2.c0.c0.val, g.c0.c1.c0.val, g.c1.c1.c0.val, g.c2.c1.c0.val,
    g.c0.c0.c1.val, g.c1.c0.c1.val, g.c2.c0.c1.val, g.c0.c1.c1.val, g.c1.c1.c1.val, g.c2.c1.c1.val]

theorem cast12 (n : ℕ) : (n : Fq12) = ofFq (n : Fq) := (map_natCast ofFq n).symm
@[simp] theorem cast12_mod (n : ℕ) : ((n % Spec.q : ℕ) : Fq12) = n := by
  rw [cast12, cast_mod, ← cast12]
@[simp] theorem cast12_subm (x y : ℕ) : ((subm Spec.q x y : ℕ) : Fq12) = (x : Fq12) - y := by
  rw [cast12, cast_subm, map_sub, ← cast12, ← cast12]
@[simp] theorem cast12_negm (x : ℕ) : ((negm Spec.q x : ℕ) : Fq12) = -(x : Fq12) := by
  rw [cast12, cast_negm, map_neg, ← cast12]
@[simp] theorem cast12_invm (x : ℕ) : ((invm Spec.q x : ℕ) : Fq12) = (x : Fq12)⁻¹ := by
  rw [cast12, cast_invm, map_inv₀, ← cast12]

theorem w12 : w ^ 12 = -2 := by
  rw [Fq12.w_pow12, Fq.nr_eq, map_neg, map_add, map_one, one_add_one_eq_two]

theorem ev_coords (x : Spec.F12) :
    ev x = ⟨⟨⟨(x[0]! : Fq), (x[6]! : Fq)⟩, ⟨(x[3]! : Fq), (x[9]! : Fq)⟩⟩,
            ⟨⟨(x[1]! : Fq), (x[7]! : Fq)⟩, ⟨(x[4]! : Fq), (x[10]! : Fq)⟩⟩,
            ⟨⟨(x[2]! : Fq), (x[8]! : Fq)⟩, ⟨(x[5]! : Fq), (x[11]! : Fq)⟩⟩⟩ := by
  unfold ev evN
  simp only [Finset.sum_range_succ, Finset.sum_range_zero, cast12, pow_zero, pow_one, mul_one, zero_add]
  -- `exact (Fq12.decomp _).symm` does not return (unification unfolds `Nat.cast` at `q`): the tuple is written out
  exact (Fq12.decomp ⟨⟨⟨(x[0]! : Fq), (x[6]! : Fq)⟩, ⟨(x[3]! : Fq), (x[9]! : Fq)⟩⟩,
            ⟨⟨(x[1]! : Fq), (x[7]! : Fq)⟩, ⟨(x[4]! : Fq), (x[10]! : Fq)⟩⟩,
            ⟨⟨(x[2]! : Fq), (x[8]! : Fq)⟩, ⟨(x[5]! : Fq), (x[11]! : Fq)⟩⟩⟩).symm

theorem canon_toF12 (g : Fq12) : Canon (toF12 g) := by
  refine ⟨rfl, fun i hi => ?_⟩
  interval_cases i <;> exact val_lt _

@[simp] theorem ev_toF12 (g : Fq12) : ev (toF12 g) = g := by
  rw [ev_coords]
  ext <;> exact cast_val _

theorem toF12_ev {x : Spec.F12} (h : Canon x) : toF12 (ev x) = x := by
  rw [ev_coords]
  apply array12_ext _ _ rfl h.1
  intro i hi
  interval_cases i <;> exact val_cast_of_lt (h.2 _ (by norm_num))

theorem toF12_injective : Function.Injective toF12 := fun a b h => by
  rw [← ev_toF12 a, h, ev_toF12]

theorem eq_toF12 {x : Spec.F12} {g : Fq12} (hc : Canon x) (h : ev x = g) : x = toF12 g := by
  rw [← h, toF12_ev hc]

theorem ev_injOn {x y : Spec.F12} (hx : Canon x) (hy : Canon y) (h : ev x = ev y) : x = y := by
  rw [← toF12_ev hx, h, toF12_ev hy]

theorem evN_replicate (n m : ℕ) : evN n (Array.replicate m 0) = 0 := by
  unfold evN
  apply Finset.sum_eq_zero
  intro i _
  rw [get_replicate, Nat.cast_zero, zero_mul]

theorem evN_set_add (n : ℕ) (b : Array ℕ) (k c : ℕ) (hk : k < n) (hb : k < b.size) :
    evN n (b.set! k (b[k]! + c)) = evN n b + (c : Fq12) * w ^ k := by
  unfold evN
  have : ∀ i, (((b.set! k (b[k]! + c))[i]! : ℕ) : Fq12) * w ^ i
      = ((b[i]! : ℕ) : Fq12) * w ^ i + (if i = k then (c : Fq12) * w ^ k else 0) := by
    intro i
    rw [get_set]
    by_cases h : k = i
    · subst h; simp [hb, add_mul]
    · simp [h, Ne.symm h]
  simp only [this, Finset.sum_add_distrib, Finset.sum_ite_eq', Finset.mem_range, hk, if_true]

theorem foldl_evN {α : Type} (n s : ℕ) (F : α → Array ℕ → Array ℕ) (G : α → Fq12) (l : List α)
    (hF : ∀ a ∈ l, ∀ b : Array ℕ, b.size = s → (F a b).size = s ∧ evN n (F a b) = evN n b + G a) :
    ∀ b : Array ℕ, b.size = s → (l.foldl (fun b a => F a b) b).size = s ∧
      evN n (l.foldl (fun b a => F a b) b) = evN n b + (l.map G).sum := by
  induction l with
  | nil => intro b hb; simp [hb]
  | cons a l ih =>
    intro b hb
    obtain ⟨h1, h2⟩ := hF a List.mem_cons_self b hb
    obtain ⟨h3, h4⟩ := ih (fun a' ha' => hF a' (List.mem_cons_of_mem _ ha')) (F a b) h1
    simp only [List.foldl_cons, List.map_cons, List.sum_cons]
    exact ⟨h3, by rw [h4, h2, add_assoc]⟩

theorem list_sum_range' (f : ℕ → Fq12) (n : ℕ) :
    ((List.range' 0 n).map f).sum = ∑ i ∈ Finset.range n, f i := by
  rw [← List.range_eq_range']
  rfl

/-- the 23 coefficients of the schoolbook product -/
def mulAcc (x y : Array ℕ) : Array ℕ :=
  List.foldl (fun b i => List.foldl (fun b j => b.set! (i + j) (b[i + j]! + x[i]! * y[j]!)) b (List.range' 0 12))
    (Array.replicate 23 0) (List.range' 0 12)

/-- reduction modulo `w¹² + 2` -/
def redCoeff (acc : Array ℕ) (i : ℕ) : ℕ :=
  subm Spec.q acc[i]! (2 * if i + 12 < 23 then acc[i + 12]! else 0)
def reduce (acc : Array ℕ) : Array ℕ :=
  List.foldl (fun b i => b.set! i (redCoeff acc i)) (Array.replicate 12 0) (List.range' 0 12)

theorem mul_eq_reduce (x y : Spec.F12) : Spec.F12.mul x y = reduce (mulAcc x y) := by
  unfold Spec.F12.mul
  simp only [Std.Legacy.Range.forIn_eq_forIn_range', Std.Legacy.Range.size, List.forIn_pure_yield_eq_foldl,
    bind_pure_comp, map_pure, pure_bind, Id.run_pure]
  rfl

theorem mulAcc_spec (x y : Array ℕ) :
    (mulAcc x y).size = 23 ∧ evN 23 (mulAcc x y) = evN 12 x * evN 12 y := by
  have inner : ∀ i ∈ List.range' 0 12, ∀ b : Array ℕ, b.size = 23 →
      (List.foldl (fun b j => b.set! (i + j) (b[i + j]! + x[i]! * y[j]!)) b (List.range' 0 12)).size = 23 ∧
      evN 23 (List.foldl (fun b j => b.set! (i + j) (b[i + j]! + x[i]! * y[j]!)) b (List.range' 0 12))
        = evN 23 b + ((List.range' 0 12).map
            (fun j => ((x[i]! * y[j]! : ℕ) : Fq12) * w ^ (i + j))).sum := by
    intro i hi
    have hi' : i < 12 := by simpa using (List.mem_range'_1.1 hi).2
    apply foldl_evN 23 23 (fun j b => b.set! (i + j) (b[i + j]! + x[i]! * y[j]!))
    intro j hj b hb
    have hj' : j < 12 := by simpa using (List.mem_range'_1.1 hj).2
    exact ⟨by rw [size_set, hb], evN_set_add 23 b (i + j) _ (by omega) (by omega)⟩
  obtain ⟨h1, h2⟩ := foldl_evN 23 23
    (fun i b => List.foldl (fun b j => b.set! (i + j) (b[i + j]! + x[i]! * y[j]!)) b (List.range' 0 12))
    _ (List.range' 0 12) inner (Array.replicate 23 0) (by simp)
  refine ⟨h1, ?_⟩
  unfold mulAcc
  rw [h2, evN_replicate, zero_add, list_sum_range']
  simp only [list_sum_range']
  unfold evN
  rw [Finset.sum_mul_sum]
  apply Finset.sum_congr rfl; intro i _
  apply Finset.sum_congr rfl; intro j _
  rw [Nat.cast_mul, pow_add]; ring

theorem reduce_spec (acc : Array ℕ) (hs : acc.size = 23) :
    Canon (reduce acc) ∧ evN 12 (reduce acc) = evN 23 acc := by
  obtain ⟨h1, h2⟩ := foldl_set (redCoeff acc) (List.range' 0 12) (Array.replicate 12 0)
  have hsz : (reduce acc).size = 12 := h1.trans (by simp)
  have hget : ∀ k < 12, (reduce acc)[k]! = subm Spec.q acc[k]! (2 * acc[k + 12]!) := by
    intro k hk
    refine (h2 k (by simpa using hk)).trans ?_
    rw [if_pos (List.mem_range'_1.2 ⟨Nat.zero_le _, by omega⟩)]
    unfold redCoeff
    have e : (if k + 12 < 23 then acc[k + 12]! else 0) = acc[k + 12]! := by
      split
      · rfl
      · exact (get_oob acc _ (by omega)).symm
    rw [e]
  refine ⟨⟨hsz, fun k hk => by rw [hget k hk]; exact subm_lt _ _⟩, ?_⟩
  have e24 : evN 23 acc = evN (12 + 12) acc := by
    show evN 23 acc = evN 24 acc
    unfold evN
    rw [Finset.sum_range_succ _ 23, get_oob acc 23 (by omega), Nat.cast_zero, zero_mul, add_zero]
  rw [e24]
  unfold evN
  rw [Finset.sum_range_add, ← Finset.sum_add_distrib]
  apply Finset.sum_congr rfl
  intro i hi
  rw [hget i (Finset.mem_range.1 hi), cast12_subm, pow_add, w12, Nat.cast_mul, Nat.add_comm i 12]
  push_cast; ring

theorem F12.mul_eq (x y : Spec.F12) : Spec.F12.mul x y = toF12 (ev x * ev y) := by
  obtain ⟨h1, h2⟩ := mulAcc_spec x y
  obtain ⟨hc, he⟩ := reduce_spec _ h1
  rw [mul_eq_reduce]
  exact eq_toF12 hc (he.trans h2)

theorem F12.get_add (x y : Spec.F12) (i : ℕ) (hi : i < 12) :
    (Spec.F12.add x y)[i]! = (x[i]! + y[i]!) % Spec.q := by
  unfold Spec.F12.add
  simp [hi]

theorem F12.add_eq (x y : Spec.F12) : Spec.F12.add x y = toF12 (ev x + ev y) :=
  eq_toF12 ⟨by simp [Spec.F12.add], fun i hi => by rw [F12.get_add x y i hi]; exact mod_lt _⟩ (by
    unfold ev evN
    rw [← Finset.sum_add_distrib]
    apply Finset.sum_congr rfl
    intro i hi
    rw [F12.get_add x y i (Finset.mem_range.1 hi), cast12_mod, Nat.cast_add, add_mul])

theorem F12.size_zero : Spec.F12.zero.size = 12 := by simp [Spec.F12.zero]
theorem F12.get_zero (i : ℕ) : Spec.F12.zero[i]! = 0 := get_replicate 12 i
theorem F12.ev_zero : ev Spec.F12.zero = 0 := evN_replicate 12 12

theorem canon_set {x : Spec.F12} (h : Canon x) (k v : ℕ) (hv : v < Spec.q) : Canon (x.set! k v) := by
  refine ⟨by rw [size_set, h.1], fun i hi => ?_⟩
  rw [get_set]
  split
  · exact hv
  · exact h.2 i hi

theorem F12.canon_zero : Canon Spec.F12.zero :=
  ⟨F12.size_zero, fun i _ => by rw [F12.get_zero]; exact q_pos⟩

theorem ev_set_of_zero (x : Spec.F12) (k v : ℕ) (hk : k < 12) (hs : x.size = 12) (h0 : x[k]! = 0) :
    ev (x.set! k v) = ev x + (v : Fq12) * w ^ k := by
  have := evN_set_add 12 x k v hk (by omega)
  rw [h0, Nat.zero_add] at this
  exact this

theorem F12.mono_eq (i c : ℕ) (hi : i < 12) : Spec.F12.mono i c = toF12 ((c : Fq12) * w ^ i) :=
  eq_toF12 (canon_set F12.canon_zero _ _ (mod_lt _)) (by
    unfold Spec.F12.mono
    rw [ev_set_of_zero _ _ _ hi F12.size_zero (F12.get_zero i), F12.ev_zero, zero_add, cast12_mod])

theorem F12.ofQ_eq (x : ℕ) : Spec.F12.ofQ x = toF12 (ofFq (x : Fq)) := by
  show Spec.F12.mono 0 x = _
  rw [F12.mono_eq 0 x (by norm_num), pow_zero, mul_one, cast12]

theorem ofFq2_eq (a : Fq2) : ofFq2 a = ofFq a.c0 + ofFq a.c1 * w ^ 6 := by
  rw [Fq12.w_pow6_eq, Fq12.ofFq_eq_ofFq2, Fq12.ofFq_eq_ofFq2, ← map_mul, ← map_add]
  congr 1
  ext <;> simp [Fq2.new, Fq2.i]

theorem F12.ofQ2_eq (x : Spec.Q2) : Spec.F12.ofQ2 x = toF12 (ofFq2 (evQ2 x)) :=
  eq_toF12 (canon_set (canon_set F12.canon_zero _ _ (mod_lt _)) _ _ (mod_lt _)) (by
    unfold Spec.F12.ofQ2
    rw [ev_set_of_zero _ _ _ (by norm_num) (by rw [size_set, F12.size_zero])
        (by rw [get_set, if_neg (by omega), F12.get_zero]),
      ev_set_of_zero _ _ _ (by norm_num) F12.size_zero (F12.get_zero 0), F12.ev_zero, ofFq2_eq]
    simp only [evQ2, cast12, cast_mod, pow_zero, mul_one, zero_add])

theorem toF12_one : Spec.F12.one = toF12 1 := by decide +kernel

theorem Fq12_two_ne_zero : (2 : Fq12) ≠ 0 := by
  rw [← map_ofNat ofFq 2]
  exact (map_ne_zero ofFq).2 Fq.two_ne_zero

theorem toF12_winv : Spec.F12.winv = toF12 w⁻¹ := by
  unfold Spec.F12.winv
  rw [F12.mono_eq _ _ (by norm_num), cast12_negm, cast12_invm]
  refine congrArg toF12 (eq_inv_of_mul_eq_one_left ?_)
  have h2 := Fq12_two_ne_zero
  calc -((2 : ℕ) : Fq12)⁻¹ * w ^ 11 * w = -((2 : ℕ) : Fq12)⁻¹ * w ^ 12 := by ring
    _ = 1 := by rw [w12]; push_cast; field_simp

theorem F12.pow_eq_sqmul (x : Spec.F12) (e : ℕ) : Spec.F12.pow x e = sqmul Spec.F12.mul Spec.F12.one x e := rfl

theorem F12.pow_eq (x : Spec.F12) (e : ℕ) : Spec.F12.pow x e = toF12 (ev x ^ e) :=
  F12.pow_eq_sqmul .. ▸ sqmul_rel₂ Spec.F12.mul (fun y g => y = toF12 g) (fun y g => ev y = g)
    (fun a b _ _ ha hb => by rw [F12.mul_eq, ha, ev_toF12, hb]) (fun b _ hb => by rw [F12.mul_eq, ev_toF12, hb])
    toF12_one rfl e

theorem toF12_add (a b : Fq12) : Spec.F12.add (toF12 a) (toF12 b) = toF12 (a + b) := by
  rw [F12.add_eq, ev_toF12, ev_toF12]
theorem toF12_mul (a b : Fq12) : Spec.F12.mul (toF12 a) (toF12 b) = toF12 (a * b) := by
  rw [F12.mul_eq, ev_toF12, ev_toF12]
theorem toF12_pow (a : Fq12) (e : ℕ) : Spec.F12.pow (toF12 a) e = toF12 (a ^ e) := by
  rw [F12.pow_eq, ev_toF12]
theorem toF12_ofQ (a : Fq) : Spec.F12.ofQ a.val = toF12 (ofFq a) := by
  rw [F12.ofQ_eq, cast_val]
theorem toF12_ofQ2 (a : Fq2) : Spec.F12.ofQ2 (toQ2 a) = toF12 (ofFq2 a) := by
  rw [F12.ofQ2_eq, evQ2_toQ2]
theorem toF12_mono (i : ℕ) (hi : i < 12) (c : Fq) :
    Spec.F12.mono i c.val = toF12 (ofFq c * w ^ i) := by
  rw [F12.mono_eq _ _ hi, cast12, cast_val]
theorem toF12_w_pow (i : ℕ) (hi : i < 12) : Spec.F12.mono i 1 = toF12 (w ^ i) := by
  have h := toF12_mono i hi 1
  rwa [map_one, one_mul] at h

theorem toQ2?_toF12_ofFq2 (a : Fq2) : Spec.F12.toQ2? (toF12 (ofFq2 a)) = some (toQ2 a) := by
  unfold Spec.F12.toQ2?
  rw [if_pos]
  · rfl
  · simp only [List.all_eq_true, List.mem_range]
    intro i hi
    interval_cases i <;> rfl

theorem toF12_w : toF12 w = Spec.F12.mono 1 1 := by rw [toF12_w_pow 1 (by norm_num), pow_one]
theorem toF12_v : toF12 ⟨Fq4.v, 0, 0⟩ = Spec.F12.mono 3 1 := by rw [toF12_w_pow 3 (by norm_num), Fq12.w_pow3]; rfl
theorem toF12_u : toF12 (ofFq2 Fq2.i) = Spec.F12.mono 6 1 := by rw [toF12_w_pow 6 (by norm_num), Fq12.w_pow6_eq]

end SpecField
end Sm9
