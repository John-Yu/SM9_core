import Sm9.Proofs.MillerFrobenius
/-!
# The textbook Miller function under `P ↦ −P`, `Q ↦ −Q` and `Q ↦ π(Q)`

What each map does to a line value, and the instance of `specM_rel` it gives.  With `σ : x ↦ x^(q⁶)`, the conjugation
of `Fq12` over `Fq6` (it fixes `Fq2`, `σ(w) = −w`):
* negating `P` turns a line value `ℓ` into `−σ(ℓ)`, which has the same `E`-th power as `σ(ℓ)` (`specM_negP`, reduced);
* negating `Q` negates every point of the chain and every slope and turns `ℓ` into `σ(ℓ)` (`specM_neg`);
* `π(x, y) = (x̄·π₁⁻², ȳ·π₁⁻³)` multiplies slopes by `π₁⁻¹`, and the `q`-power map of `Fq12` fixes `ofFq`, conjugates `ofFq2`
  and sends `w` to `π₁ w`, so it turns the line through `T` into the line through `π(T)` (`specM_frobHom`).
-/
namespace Sm9
namespace Miller
open WeierstrassCurve

local notation "E" => ((q ^ 12 - 1) / r)

/-- `b` is `σ(a)` after the final exponentiation -/
def RedSigma (a b : Fq12) : Prop := b ^ E = sigma a ^ E

theorem RedSigma.one : RedSigma 1 1 := by
  unfold RedSigma; rw [map_one]

theorem RedSigma.mul {a b c d : Fq12} (h : RedSigma a b) (h' : RedSigma c d) : RedSigma (a * c) (b * d) := by
  unfold RedSigma at *
  rw [mul_pow, map_mul, mul_pow, h, h']

theorem lineVal_negP (xP yP : Fq) (A B : (Jac.Wb b2).Point) :
    RedSigma (lineVal (Jac.Wb b2) (lineAt xP yP) A B) (lineVal (Jac.Wb b2) (lineAt xP (-yP)) A B) :=
  lineVal_rel RedSigma RedSigma.one (fun x y l => by
    unfold RedSigma lineAt; rw [lineSpec_neg_P, neg_pow, neg_one_pow_final, one_mul]) A B

theorem specM_negP (xP yP : Fq) (Q : (Jac.Wb b2).Point) :
    specM (lineAt xP (-yP)) Q ^ E = sigma (specM (lineAt xP yP) Q) ^ E :=
  specM_rel (AddMonoidHom.id _) RedSigma (fun _ => rfl) RedSigma.one RedSigma.mul (lineVal_negP xP yP) Q

section negQ
variable {F : Type} [Field F] [DecidableEq F] (b : F)

theorem slope_neg (x1 x2 y1 y2 : F) :
    (Jac.Wb b).slope x1 x2 (-y1) (-y2) = -(Jac.Wb b).slope x1 x2 y1 y2 := by
  unfold Affine.slope
  simp only [Jac.negY_eq]
  by_cases hx : x1 = x2
  · by_cases hy : y1 = -y2
    · rw [if_pos hx, if_pos (by rw [hy]), if_pos hx, if_pos hy, neg_zero]
    · have hy' : ¬ (-y1 = - -y2) := fun h => hy (neg_injective h)
      rw [if_pos hx, if_neg hy', if_pos hx, if_neg hy]
      simp only [Jac.Wb, mul_zero, zero_mul, add_zero, sub_zero]
      rw [show -y1 - - -y1 = -(y1 - -y1) by ring, div_neg]
  · rw [if_neg hx, if_neg hx, show -y1 - -y2 = -(y1 - y2) by ring, neg_div]

end negQ

theorem lineVal_neg_neg (xP yP : Fq) (A B : (Jac.Wb b2).Point) :
    lineVal (Jac.Wb b2) (lineAt xP yP) (-A) (-B)
      = sigma (lineVal (Jac.Wb b2) (lineAt xP yP) A B) := by
  cases A with
  | zero => exact (map_one sigma).symm
  | some x1 y1 h1 =>
    cases B with
    | zero => exact (map_one sigma).symm
    | some x2 y2 h2 =>
      rw [Affine.Point.neg_some, Affine.Point.neg_some, lineVal_some, lineVal_some, Jac.negY_eq, Jac.negY_eq,
        slope_neg]
      exact lineSpec_neg_Q _ _ _ xP yP

theorem specM_neg (xP yP : Fq) (Q : (Jac.Wb b2).Point) :
    specM (lineAt xP yP) (-Q) = sigma (specM (lineAt xP yP) Q) :=
  specM_natural negAddMonoidHom (sigma : Fq12 →* Fq12) (fun A => (map_neg frobHom A).symm)
    (lineVal_neg_neg xP yP) Q

theorem ofFq_pow_q (a : Fq) : Fq12.ofFq a ^ q = Fq12.ofFq a := by
  rw [← map_pow]
  have := Fq.pow_q_pow a 1
  rw [pow_one] at this
  rw [this]

theorem w_inv_pow_q : (Fq12.w⁻¹) ^ q = Fq12.ofFq2 pi1F⁻¹ * Fq12.w⁻¹ := by
  simpa only [pow_one] using w_pow_inv_pow_q 1

theorem lineSpec_pow_q (x y lam : Fq2) (xP yP : Fq) :
    lineSpec x y lam xP yP ^ q
      = lineSpec (conj x * pi1F⁻¹ ^ 2) (conj y * pi1F⁻¹ ^ 3) (conj lam * pi1F⁻¹) xP yP := by
  rw [lineSpec_eq_w, lineSpec_eq_w, ← frobenius_def, map_add, map_sub, map_mul, map_mul, map_mul]
  simp only [frobenius_def, ofFq_pow_q, ofFq2_pow_q, w_inv_pow_q, w_pow_inv_pow_q, ← conj_apply]
  simp only [map_mul, map_sub, map_pow]
  ring

section generic
variable {F : Type} [Field F] [DecidableEq F] {K : Type} [Monoid K]
variable (b : F) (σ : F →+* F) (c : F) (hc : c ≠ 0) (hb : σ b * c ^ 6 = b)
variable (ℓ : F → F → F → K) (φ : K →* K)

theorem lineVal_map (hℓ : ∀ x y lam, ℓ (σ x * c ^ 2) (σ y * c ^ 3) (σ lam * c) = φ (ℓ x y lam))
    (A B : (Jac.Wb b).Point) :
    lineVal (Jac.Wb b) ℓ (ptMap b σ c hc hb A) (ptMap b σ c hc hb B) = φ (lineVal (Jac.Wb b) ℓ A B) := by
  cases A with
  | zero => exact (map_one φ).symm
  | some x1 y1 h1 =>
    cases B with
    | zero => exact (map_one φ).symm
    | some x2 y2 h2 =>
      rw [ptMap_some, ptMap_some, lineVal_some, lineVal_some, twist_slope b σ c hc, hℓ]

end generic

theorem lineVal_frobHom (xP yP : Fq) (A B : (Jac.Wb b2).Point) :
    lineVal (Jac.Wb b2) (lineAt xP yP) (frobHom A) (frobHom B)
      = powMonoidHom q (lineVal (Jac.Wb b2) (lineAt xP yP) A B) :=
  lineVal_map b2 conj pi1F⁻¹ (inv_ne_zero pi1F_ne_zero) frob_coeff (lineAt xP yP) (powMonoidHom q)
    (fun x y lam => (lineSpec_pow_q x y lam xP yP).symm) A B

theorem specM_frobHom (xP yP : Fq) (Q : (Jac.Wb b2).Point) :
    specM (lineAt xP yP) (frobHom Q) = specM (lineAt xP yP) Q ^ q :=
  specM_natural frobHom (powMonoidHom q) (fun _ => rfl) (lineVal_frobHom xP yP) Q

theorem specMNaf_frobHom (xP yP : Fq) (Q : (Jac.Wb b2).Point) :
    specMNaf (lineAt xP yP) (frobHom Q) = specMNaf (lineAt xP yP) Q ^ q :=
  specMNaf_natural frobHom (powMonoidHom q) (fun _ => rfl) (lineVal_frobHom xP yP) Q

theorem specMiller_frobTwist (xP yP : Fq) (xQ yQ : Fq2) (hQ : yQ * yQ = xQ * xQ * xQ + b2) :
    specMiller xP yP (frobTwist (xQ, yQ)).1 (frobTwist (xQ, yQ)).2 = specMiller xP yP xQ yQ ^ q := by
  rw [specMiller_eq_specM _ _ _ _ (frobTwist_equation (xQ, yQ) hQ), specMiller_eq_specM _ _ _ _ hQ,
    ← frobHom_twPt (xQ, yQ) hQ, specM_frobHom]

theorem specMillerNaf_frobTwist (xP yP : Fq) (xQ yQ : Fq2) (hQ : yQ * yQ = xQ * xQ * xQ + b2) :
    specMillerNaf xP yP (frobTwist (xQ, yQ)).1 (frobTwist (xQ, yQ)).2 = specMillerNaf xP yP xQ yQ ^ q := by
  rw [specMillerNaf_eq_specMNaf _ _ _ _ (frobTwist_equation (xQ, yQ) hQ), specMillerNaf_eq_specMNaf _ _ _ _ hQ,
    ← frobHom_twPt (xQ, yQ) hQ, specMNaf_frobHom]

end Miller
end Sm9
