import Sm9.Model.Mont
import Sm9.Proofs.MontBasic
import Sm9.Proofs.MontMul
import Sm9.Proofs.MontForm
import Sm9.Proofs.PrattCert
import Mathlib.Data.Nat.ModEq
import Mathlib.Data.Nat.Prime.Basic
import Mathlib.Data.Nat.GCD.Basic
/-!
# `U256::invert` (u256.rs, binary extended Euclid seeded with R²) and `Fp::inverse`

The cofactors keep `b·a ≡ u·r2` and `c·a ≡ v·r2 (mod m)` through the halving loop and the subtraction step.
Termination within the fuel: `u·v` at least halves per iteration as soon as one of `u`, `v` is even, which holds
after the first iteration.
-/
namespace Sm9
namespace U256

theorem halve_tracks (m a r2 : Nat) (hm : m < W256) (hodd : m % 2 = 1) :
    ∀ fuel u b, 0 < u → u < 2 ^ fuel → b < m → (b * a) % m = (u * r2) % m →
      ∃ u1 b1, halve fuel u b m = some (u1, b1) ∧ u1 % 2 = 1 ∧ u1 ∣ u ∧
        (u % 2 = 0 → 2 * u1 ≤ u) ∧ (u % 2 = 1 → u1 = u) ∧
        b1 < m ∧ (b1 * a) % m = (u1 * r2) % m := by
  intro fuel
  induction fuel with
  | zero => intro u b hu hlt; simp at hlt; omega
  | succ n ih =>
    intro u b hu hlt hb hinv
    unfold halve
    by_cases he : u % 2 = 0
    · rw [if_pos (by simp [Big.is_even, he])]
      have hd := div2_spec b m hm hodd hb
      have hd1 : div2 b m < m := by rw [hd]; split <;> omega
      have h2u : 2 * (u / 2) = u := by omega
      -- cancel the factor 2 of `2·(div2 b)·a ≡ b·a ≡ u·r2 = 2·(u/2)·r2`
      have hinv1 : (div2 b m * a) % m = (Big.div2 u * r2) % m := by
        apply Nat.ModEq.cancel_left_of_coprime
          (Nat.coprime_two_right.mpr (Nat.odd_iff.mpr hodd) : Nat.gcd m 2 = 1)
        have h2 : 2 * div2 b m ≡ b [MOD m] := by
          rw [hd]; split
          · rw [show 2 * ((b + m) / 2) = b + m by omega]; exact Nat.add_modEq_right
          · rw [show 2 * (b / 2) = b by omega]
        calc 2 * (div2 b m * a) = (2 * div2 b m) * a := by ring
          _ ≡ b * a [MOD m] := h2.mul_right a
          _ ≡ u * r2 [MOD m] := hinv
          _ = 2 * (Big.div2 u * r2) := by rw [Big.div2, ← mul_assoc, h2u]
      have hpos1 : 0 < u / 2 := by omega
      obtain ⟨u1, b1, h1, h2, h3, _, _, h6, h7⟩ :=
        ih (Big.div2 u) (div2 b m) hpos1 (by rw [Big.div2, pow_succ] at *; omega) hd1 hinv1
      refine ⟨u1, b1, h1, h2, ?_, fun _ => ?_, fun h => by omega, h6, h7⟩
      · rw [← h2u]; exact Dvd.dvd.mul_left h3 2
      · have := Nat.le_of_dvd hpos1 h3
        omega
    · rw [if_neg (by simp [Big.is_even, he])]
      exact ⟨u, b, rfl, by omega, dvd_refl u, fun h => absurd h he, fun _ => rfl, hb, hinv⟩

theorem halve_spec (m a r2 : Nat) (hm : m < W256) (hm2 : W256 < 2 * m) (hodd : m % 2 = 1) :
    ∀ fuel u b, 0 < u → u < 2 ^ fuel → b < m → (b * a) % m = (u * r2) % m →
      ∃ u1 b1, halve fuel u b m = some (u1, b1) ∧ u1 % 2 = 1 ∧ u1 ∣ u ∧
        (u % 2 = 0 → 2 * u1 ≤ u) ∧ (u % 2 = 1 → u1 = u) ∧
        b1 < m ∧ (b1 * a) % m = (u1 * r2) % m :=
  halve_tracks m a r2 hm hodd

theorem W256_le_pow600 : W256 ≤ 2 ^ 600 := by
  unfold W256; exact Nat.pow_le_pow_right (by decide) (by decide)

theorem sub_tracks (m a r2 u v b c : Nat) (hm : m < W256) (hb : b < m) (hc : c < m) (hvu : v ≤ u)
    (hib : (b * a) % m = (u * r2) % m) (hic : (c * a) % m = (v * r2) % m) :
    sub b c m < m ∧ (sub b c m * a) % m = ((u - v) * r2) % m := by
  obtain ⟨hs1, hs2⟩ := sub_refines b c m hm hb hc
  refine ⟨hs1, Nat.ModEq.add_right_cancel (hic : _ ≡ _ [MOD m]) ?_⟩
  have hs : sub b c m + c ≡ b [MOD m] := by rw [Nat.ModEq, hs2, Nat.mod_eq_of_lt hb]
  calc sub b c m * a + c * a = (sub b c m + c) * a := by ring
    _ ≡ b * a [MOD m] := hs.mul_right a
    _ ≡ u * r2 [MOD m] := hib
    _ = (u - v) * r2 + v * r2 := by rw [← add_mul, Nat.sub_add_cancel hvu]

/-- the last hypothesis is one spare factor 2 when both are odd: the first iteration need not halve -/
theorem invLoop_spec (m a r2 : Nat) (hm : m < W256) (hodd : m % 2 = 1) :
    ∀ fuel u v b c, 0 < u → 0 < v → u < W256 → v < W256 → b < m → c < m →
      Nat.Coprime u v → (b * a) % m = (u * r2) % m → (c * a) % m = (v * r2) % m →
      u * v < 2 ^ fuel → (u % 2 = 1 → v % 2 = 1 → 2 * (u * v) < 2 ^ fuel) →
      ∃ x, invLoop fuel u v b c m = some x ∧ x < m ∧ (x * a) % m = r2 % m := by
  intro fuel
  induction fuel with
  | zero =>
    intro u v b c hu hv _ _ _ _ _ _ _ hμ _
    have := Nat.mul_pos hu hv
    simp at hμ; omega
  | succ n ih =>
    intro u v b c hu hv huW hvW hb hc hcop hib hic hμ hμ2
    unfold invLoop
    by_cases hu1 : u = 1
    · subst hu1; exact ⟨b, by simp, hb, by rw [hib, one_mul]⟩
    by_cases hv1 : v = 1
    · subst hv1; exact ⟨c, by simp [hu1], hc, by rw [hic, one_mul]⟩
    rw [if_pos (by simp [hu1, hv1])]
    obtain ⟨u1, b1, hh1, hu1odd, hu1d, hu1h, hu1e, hb1, hib1⟩ :=
      halve_tracks m a r2 hm hodd 600 u b hu (lt_of_lt_of_le huW W256_le_pow600) hb hib
    obtain ⟨v1, c1, hh2, hv1odd, hv1d, hv1h, hv1e, hc1, hic1⟩ :=
      halve_tracks m a r2 hm hodd 600 v c hv (lt_of_lt_of_le hvW W256_le_pow600) hc hic
    simp only [hh1, hh2]
    have hu1le : u1 ≤ u := Nat.le_of_dvd hu hu1d
    have hv1le : v1 ≤ v := Nat.le_of_dvd hv hv1d
    have hcop1 : Nat.Coprime u1 v1 := (hcop.coprime_dvd_right hv1d).coprime_dvd_left hu1d
    -- equal odd parts would both be 1, so `u` and `v` were both even, against `gcd u v = 1`
    have hne : u1 ≠ v1 := by
      rintro rfl
      obtain rfl : u1 = 1 := (Nat.coprime_self u1).mp hcop1
      have hue : u % 2 = 0 := by by_contra h; exact hu1 (hu1e (by omega)).symm
      have hve : v % 2 = 0 := by by_contra h; exact hv1 (hv1e (by omega)).symm
      have := hcop ▸ Nat.dvd_gcd (Nat.dvd_of_mod_eq_zero hue) (Nat.dvd_of_mod_eq_zero hve)
      omega
    -- the product has lost a factor 2
    have hprod : 2 * (u1 * v1) < 2 ^ (n + 1) := by
      rcases Nat.mod_two_eq_zero_or_one u with hue | huo
      · calc 2 * (u1 * v1) = (2 * u1) * v1 := by ring
          _ ≤ u * v := Nat.mul_le_mul (hu1h hue) hv1le
          _ < _ := hμ
      · rcases Nat.mod_two_eq_zero_or_one v with hve | hvo
        · calc 2 * (u1 * v1) = u1 * (2 * v1) := by ring
            _ ≤ u * v := Nat.mul_le_mul hu1le (hv1h hve)
            _ < _ := hμ
        · rw [hu1e huo, hv1e hvo]; exact hμ2 huo hvo
    rw [pow_succ] at hprod
    have hu1pos : 0 < u1 := by omega
    have hv1pos : 0 < v1 := by omega
    by_cases hge : u1 ≥ v1
    · rw [if_pos hge, Big.sub_with_borrow_of_le hge (by omega)]
      obtain ⟨hs1, hs2⟩ := sub_tracks m a r2 u1 v1 b1 c1 hm hb1 hc1 hge hib1 hic1
      exact ih (u1 - v1) v1 (sub b1 c1 m) c1 (by omega) hv1pos (by omega) (by omega) hs1 hc1
        ((Nat.coprime_sub_self_left hge).mpr hcop1) hs2 hic1
        (lt_of_le_of_lt (Nat.mul_le_mul_right v1 (Nat.sub_le u1 v1)) (by omega))
        (by intro h1 h2; omega)
    · rw [if_neg hge, Big.sub_with_borrow_of_le (by omega) (by omega)]
      obtain ⟨hs1, hs2⟩ := sub_tracks m a r2 v1 u1 c1 b1 hm hc1 hb1 (by omega) hic1 hib1
      exact ih u1 (v1 - u1) b1 (sub c1 b1 m) hu1pos (by omega) (by omega) (by omega) hb1 hs1
        ((Nat.coprime_sub_self_right (by omega)).mpr hcop1) hib1 hs2
        (lt_of_le_of_lt (Nat.mul_le_mul_left u1 (Nat.sub_le v1 u1)) (by omega))
        (by intro h1 h2; omega)

theorem invert_refines_coprime (a m r2 : Nat) (hodd : m % 2 = 1) (hcop : Nat.Coprime a m)
    (hm : m < W256) (ha0 : 0 < a) (ha : a < m) (hr : r2 < m) :
    ∃ x, invert a m r2 = some x ∧ x < m ∧ (x * a) % m = r2 % m := by
  unfold invert
  have hmpos : 0 < m := by omega
  have hprod : 2 * (a * m) < 2 ^ 1200 := by
    have h1 : a * m ≤ W256 * W256 := Nat.mul_le_mul (by omega) (le_of_lt hm)
    have h2 : 2 * (W256 * W256) < 2 ^ 1200 := by decide +kernel
    omega
  apply invLoop_spec m a r2 hm hodd 1200 a m r2 0 ha0 hmpos (by omega) hm hr hmpos hcop
    (by rw [mul_comm]) (by rw [zero_mul, Nat.zero_mod, Nat.mul_mod_right]) (by omega)
    (fun _ _ => hprod)

/-- `U256::invert` on a prime modulus: the fuel suffices and `x ≡ r2 · a⁻¹ (mod m)`, `x` reduced -/
theorem invert_refines (a m r2 : Nat) (hp : Nat.Prime m) (hm : m < W256) (hm2 : W256 < 2 * m)
    (ha0 : 0 < a) (ha : a < m) (hr : r2 < m) :
    ∃ x, invert a m r2 = some x ∧ x < m ∧ (x * a) % m = r2 % m := by
  have hodd : m % 2 = 1 := by
    rcases hp.eq_two_or_odd with h | h
    · rw [W256_eq] at hm2; omega
    · exact h
  have hcop : Nat.Coprime a m :=
    Nat.Coprime.symm ((Nat.Prime.coprime_iff_not_dvd hp).mpr (Nat.not_dvd_of_pos_of_lt ha0 ha))
  exact invert_refines_coprime a m r2 hodd hcop hm ha0 ha hr

theorem invert_sound (a m r2 x : Nat) (hp : Nat.Prime m) (hm : m < W256) (hm2 : W256 < 2 * m)
    (ha0 : 0 < a) (ha : a < m) (hr : r2 < m) (h : invert a m r2 = some x) :
    x < m ∧ (x * a) % m = r2 % m := by
  obtain ⟨y, hy, h1, h2⟩ := invert_refines a m r2 hp hm hm2 ha0 ha hr
  rw [hy, Option.some.injEq] at h; subst h
  exact ⟨h1, h2⟩

end U256

namespace Fp
variable {P : MontParams}

/-- the outer `some`: the fuel suffices; the inner `none`: exactly on zero -/
theorem inverse_refines (hP : P.Ok) (hp : Nat.Prime P.modulus) (x : Nat) (hx : x < P.modulus) :
    (x = 0 → inverse P x = some none) ∧
    (x ≠ 0 → ∃ y, inverse P x = some (some y) ∧ y < P.modulus ∧ mul P y x = P.one) := by
  constructor
  · intro h; subst h; simp [inverse, is_zero]
  · intro hx0
    obtain ⟨y, hy, hylt, hyx⟩ := U256.invert_refines x P.modulus P.rsquared hp hP.lt hP.gt
      (Nat.pos_of_ne_zero hx0) hx hP.rsquared_lt
    refine ⟨y, ?_, hylt, ?_⟩
    · have : is_zero x = false := by simp [is_zero, hx0]
      unfold inverse
      rw [this, hy]; rfl
    · obtain ⟨h1, h2⟩ := mul_refines hP y x hylt hx
      apply eq_of_mul_W256 hP h1 (one_lt hP)
      rw [h2, hyx, hP.rsq, Nat.mod_mod, hP.one, Nat.mod_mul_mod]

theorem inverse_refines_q (x : Nat) (hx : x < Consts.FQ) :
    (x = 0 → inverse paramsQ x = some none) ∧
    (x ≠ 0 → ∃ y, inverse paramsQ x = some (some y) ∧ y < Consts.FQ ∧
      mul paramsQ y x = Consts.FQ_ONE) :=
  inverse_refines paramsQ_ok Sm9.q_prime x hx

theorem inverse_refines_r (x : Nat) (hx : x < Consts.FR) :
    (x = 0 → inverse paramsR x = some none) ∧
    (x ≠ 0 → ∃ y, inverse paramsR x = some (some y) ∧ y < Consts.FR ∧
      mul paramsR y x = Consts.FR_ONE) :=
  inverse_refines paramsR_ok Sm9.r_prime x hx

namespace Rep
variable [NeZero P.modulus] {x : Nat} {a : Fin P.modulus}

theorem inverse (hP : P.Ok) (hp : Nat.Prime P.modulus) (hx : Rep P x a) (ha : a ≠ 0) :
    ∃ y b, Fp.inverse P x = Option.some (Option.some y) ∧ Rep P y b ∧ b * a = 1 := by
  have hz : x ≠ 0 := fun e => ha ((hx.inj hP (zero hP)).mp e)
  obtain ⟨y, hy, hylt, hmul⟩ := (inverse_refines hP hp x hx.1).2 hz
  exact ⟨y, _, hy, ⟨hylt, rfl⟩, (mul hP ⟨hylt, rfl⟩ hx).2.symm.trans (hmul ▸ (one hP).2)⟩

/-- against any value-level inverse `w` of `a`: `none` at zero, otherwise the left inverse, which is unique.
    The outer `some`: the fuel of the model's `invert` loop suffices. -/
theorem inverse_optRel (hP : P.Ok) (hp : Nat.Prime P.modulus) (hx : Rep P x a) {w : Option (Fin P.modulus)}
    (h0 : a = 0 → w = none) (h1 : a ≠ 0 → ∃ b, w = some b ∧ b * a = 1) :
    ∃ o, Fp.inverse P x = some o ∧ OptRel (Rep P) o w := by
  by_cases ha : a = 0
  · rw [h0 ha]
    exact ⟨none, (inverse_refines hP hp x hx.1).1 ((hx.inj hP (zero hP)).mpr ha), .none_none⟩
  · obtain ⟨y, b, hy, hb, hba⟩ := hx.inverse hP hp ha
    obtain ⟨b', hw, hb'a⟩ := h1 ha
    let _ := Fin.instCommRing P.modulus
    rw [hw, ← left_inv_eq_right_inv hba ((mul_comm _ _).trans hb'a)]
    exact ⟨some y, hy, .some_some hb⟩

end Rep

example : paramsQ.Ok ∧ Nat.Prime paramsQ.modulus ∧ (2 : Nat) < paramsQ.modulus :=
  ⟨paramsQ_ok, Sm9.q_prime, by decide +kernel⟩

end Fp
end Sm9
