-- GENERATED by tools/gen_limb_equiv.py on every run — do not edit.
import Sm9.Gen.LimbRust
import Sm9.Gen.LimbEquivTactics
/-! Every limb-level definition translated from the current Rust source equals the hand-written limb model. -/
set_option linter.unusedSimpArgs false
set_option linter.unusedVariables false
namespace Sm9.GenL
open Sm9

theorem params_Fr_equiv : Sm9.Gen.L.Fr.P = Sm9.paramsR := rfl
theorem params_Fq_equiv : Sm9.Gen.L.Fq.P = Sm9.paramsQ := rfl

/-! In-range obligations.  Where the Rust code slices, indexes, subtracts `usize`s, shifts or unwraps, the translation reads the
    operation as total and leaves "no panic here" as a theorem named after the function; its hypotheses are the branch conditions and
    bindings on the way to that point. -/
theorem U256_set_bit_bound1 (to_ : Bool) (self : Nat) (n : Nat) (limb : Nat) (bit : Nat) (h0 : ¬ (n ≥ 256)) (h1 : to_) (h2 : limb = (n >>> 6)) (h3 : bit = (n &&& 63)) : limb < 4 := by limb_bound
theorem U256_set_bit_bound2 (to_ : Bool) (self : Nat) (n : Nat) (limb : Nat) (bit : Nat) (h0 : ¬ (n ≥ 256)) (h1 : to_) (h2 : limb = (n >>> 6)) (h3 : bit = (n &&& 63)) : bit < 64 := by limb_bound
theorem U256_set_bit_bound3 (to_ : Bool) (self : Nat) (n : Nat) (limb : Nat) (bit : Nat) (h0 : ¬ (n ≥ 256)) (h1 : to_) (h2 : limb = (n >>> 6)) (h3 : bit = (n &&& 63)) : limb < 4 := by limb_bound
theorem U256_set_bit_bound4 (to_ : Bool) (self : Nat) (n : Nat) (limb : Nat) (bit : Nat) (h0 : ¬ (n ≥ 256)) (h1 : ¬ (to_)) (h2 : limb = (n >>> 6)) (h3 : bit = (n &&& 63)) : limb < 4 := by limb_bound
theorem U256_set_bit_bound5 (to_ : Bool) (self : Nat) (n : Nat) (limb : Nat) (bit : Nat) (h0 : ¬ (n ≥ 256)) (h1 : ¬ (to_)) (h2 : limb = (n >>> 6)) (h3 : bit = (n &&& 63)) : bit < 64 := by limb_bound
theorem U256_set_bit_bound6 (to_ : Bool) (self : Nat) (n : Nat) (limb : Nat) (bit : Nat) (h0 : ¬ (n ≥ 256)) (h1 : ¬ (to_)) (h2 : limb = (n >>> 6)) (h3 : bit = (n &&& 63)) : limb < 4 := by limb_bound
theorem U256_from_slice_bound1 (s : List UInt8) (d : List Nat) (h0 : ¬ (((List.length s) != 32))) : 0 ≤ List.length s := by limb_bound
theorem U256_from_slice_bound2 (s : List UInt8) (d : List Nat) (h0 : ¬ (((List.length s) != 32))) : 8 ≤ List.length (List.drop 0 s) := by limb_bound
theorem U256_from_slice_bound3 (s : List UInt8) (d : List Nat) (h0 : ¬ (((List.length s) != 32))) : 8 ≤ List.length s := by limb_bound
theorem U256_from_slice_bound4 (s : List UInt8) (d : List Nat) (h0 : ¬ (((List.length s) != 32))) : 8 ≤ List.length (List.drop 8 s) := by limb_bound
theorem U256_from_slice_bound5 (s : List UInt8) (d : List Nat) (h0 : ¬ (((List.length s) != 32))) : 16 ≤ List.length s := by limb_bound
theorem U256_from_slice_bound6 (s : List UInt8) (d : List Nat) (h0 : ¬ (((List.length s) != 32))) : 8 ≤ List.length (List.drop 16 s) := by limb_bound
theorem U256_from_slice_bound7 (s : List UInt8) (d : List Nat) (h0 : ¬ (((List.length s) != 32))) : 24 ≤ List.length s := by limb_bound
theorem U256_from_slice_bound8 (s : List UInt8) (d : List Nat) (h0 : ¬ (((List.length s) != 32))) : 8 ≤ List.length (List.drop 24 s) := by limb_bound
theorem U256_to_big_endian_bound1 (self : Nat) (s : List UInt8) (be : List UInt8) (h0 : ¬ (((List.length s) != 32))) (h1 : List.length be = 32) : List.length s = List.length be := by limb_bound
theorem BitIterator_next_bound1 (self : (Nat × Nat)) (h0 : ¬ ((self.2 == 0))) : 1 ≤ self.2 := by limb_bound
theorem U512_from_slice_bound1 (s : List UInt8) (d : List Nat) (h0 : ¬ (((List.length s) != 64))) : 0 ≤ List.length s := by limb_bound
theorem U512_from_slice_bound2 (s : List UInt8) (d : List Nat) (h0 : ¬ (((List.length s) != 64))) : 8 ≤ List.length (List.drop 0 s) := by limb_bound
theorem U512_from_slice_bound3 (s : List UInt8) (d : List Nat) (h0 : ¬ (((List.length s) != 64))) : 8 ≤ List.length s := by limb_bound
theorem U512_from_slice_bound4 (s : List UInt8) (d : List Nat) (h0 : ¬ (((List.length s) != 64))) : 8 ≤ List.length (List.drop 8 s) := by limb_bound
theorem U512_from_slice_bound5 (s : List UInt8) (d : List Nat) (h0 : ¬ (((List.length s) != 64))) : 16 ≤ List.length s := by limb_bound
theorem U512_from_slice_bound6 (s : List UInt8) (d : List Nat) (h0 : ¬ (((List.length s) != 64))) : 8 ≤ List.length (List.drop 16 s) := by limb_bound
theorem U512_from_slice_bound7 (s : List UInt8) (d : List Nat) (h0 : ¬ (((List.length s) != 64))) : 24 ≤ List.length s := by limb_bound
theorem U512_from_slice_bound8 (s : List UInt8) (d : List Nat) (h0 : ¬ (((List.length s) != 64))) : 8 ≤ List.length (List.drop 24 s) := by limb_bound
theorem U512_from_slice_bound9 (s : List UInt8) (d : List Nat) (h0 : ¬ (((List.length s) != 64))) : 32 ≤ List.length s := by limb_bound
theorem U512_from_slice_bound10 (s : List UInt8) (d : List Nat) (h0 : ¬ (((List.length s) != 64))) : 8 ≤ List.length (List.drop 32 s) := by limb_bound
theorem U512_from_slice_bound11 (s : List UInt8) (d : List Nat) (h0 : ¬ (((List.length s) != 64))) : 40 ≤ List.length s := by limb_bound
theorem U512_from_slice_bound12 (s : List UInt8) (d : List Nat) (h0 : ¬ (((List.length s) != 64))) : 8 ≤ List.length (List.drop 40 s) := by limb_bound
theorem U512_from_slice_bound13 (s : List UInt8) (d : List Nat) (h0 : ¬ (((List.length s) != 64))) : 48 ≤ List.length s := by limb_bound
theorem U512_from_slice_bound14 (s : List UInt8) (d : List Nat) (h0 : ¬ (((List.length s) != 64))) : 8 ≤ List.length (List.drop 48 s) := by limb_bound
theorem U512_from_slice_bound15 (s : List UInt8) (d : List Nat) (h0 : ¬ (((List.length s) != 64))) : 56 ≤ List.length s := by limb_bound
theorem U512_from_slice_bound16 (s : List UInt8) (d : List Nat) (h0 : ¬ (((List.length s) != 64))) : 8 ≤ List.length (List.drop 56 s) := by limb_bound
theorem U512_new_bound1 (modulo : Nat) (low : Nat) (high : Nat) (carry : Bool) (c1 : Nat) (c0 : Nat)  : Option.isSome (Sm9.Gen.L.U512.from_slice ((beBytes 32 high) ++ (beBytes 32 low))) = true := by limb_bound
theorem Fp_from_str_bound1 (s : List Char) (res : Nat) (ints : List Nat) (c : Char) (d : Nat) (h0 : (if Char.isDigit c then some (Char.toNat c - 48) else none) = some d) (h1 : List.length ints = 11) : 10 < List.length ints := by limb_bound
theorem Fp_from_str_bound2 (s : List Char) (res : Nat) (ints : List Nat) (c : Char) (d : Nat) (h0 : (if Char.isDigit c then some (Char.toNat c - 48) else none) = some d) (h1 : List.length ints = 11) : d < List.length ints := by limb_bound
theorem Fr_from_hash_bound1 (v : List UInt8) (ha : List UInt8) (h0 : ¬ ((List.length ha) > 64)) (h1 : List.length v = 64) : (List.length ha) ≤ 64 := by limb_bound
theorem Fr_from_hash_bound2 (v : List UInt8) (start : Nat) (ha : List UInt8) (h0 : ¬ ((List.length ha) > 64)) (h1 : List.length v = 64) (h2 : start = (64 - (List.length ha))) : start ≤ List.length v := by limb_bound
theorem Fr_from_hash_bound3 (v : List UInt8) (start : Nat) (ha : List UInt8) (h0 : ¬ ((List.length ha) > 64)) (h1 : List.length v = 64) (h2 : start = (64 - (List.length ha))) : List.length v - start = List.length ha := by limb_bound
theorem LibFr_from_slice_bound1 (len : Nat) (hex : List UInt8) (t : List UInt8) (h0 : 1 ≤ len ∧ len ≤ 31) (h1 : len = (List.length hex)) (h2 : List.length t = 32) : len ≤ 32 := by limb_bound
theorem LibFr_from_slice_bound2 (len : Nat) (hex : List UInt8) (t : List UInt8) (h0 : 1 ≤ len ∧ len ≤ 31) (h1 : len = (List.length hex)) (h2 : List.length t = 32) : (32 - len) ≤ List.length t := by limb_bound
theorem LibFr_from_slice_bound3 (len : Nat) (hex : List UInt8) (t : List UInt8) (h0 : 1 ≤ len ∧ len ≤ 31) (h1 : len = (List.length hex)) (h2 : List.length t = 32) : List.length t - (32 - len) = List.length hex := by limb_bound
theorem LibFr_from_slice_bound4 (len : Nat) (hex : List UInt8) (t : List UInt8) (h0 : ¬ (1 ≤ len ∧ len ≤ 31)) (h1 : ¬ (len = 32)) (h2 : 33 ≤ len ∧ len ≤ 64) (h3 : len = (List.length hex)) (h4 : List.length t = 64) : len ≤ 64 := by limb_bound
theorem LibFr_from_slice_bound5 (len : Nat) (hex : List UInt8) (t : List UInt8) (h0 : ¬ (1 ≤ len ∧ len ≤ 31)) (h1 : ¬ (len = 32)) (h2 : 33 ≤ len ∧ len ≤ 64) (h3 : len = (List.length hex)) (h4 : List.length t = 64) : (64 - len) ≤ List.length t := by limb_bound
theorem LibFr_from_slice_bound6 (len : Nat) (hex : List UInt8) (t : List UInt8) (h0 : ¬ (1 ≤ len ∧ len ≤ 31)) (h1 : ¬ (len = 32)) (h2 : 33 ≤ len ∧ len ≤ 64) (h3 : len = (List.length hex)) (h4 : List.length t = 64) : List.length t - (64 - len) = List.length hex := by limb_bound
theorem LibFq_from_slice_bound1 (len : Nat) (hex : List UInt8) (t : List UInt8) (h0 : 1 ≤ len ∧ len ≤ 31) (h1 : len = (List.length hex)) (h2 : List.length t = 32) : len ≤ 32 := by limb_bound
theorem LibFq_from_slice_bound2 (len : Nat) (hex : List UInt8) (t : List UInt8) (h0 : 1 ≤ len ∧ len ≤ 31) (h1 : len = (List.length hex)) (h2 : List.length t = 32) : (32 - len) ≤ List.length t := by limb_bound
theorem LibFq_from_slice_bound3 (len : Nat) (hex : List UInt8) (t : List UInt8) (h0 : 1 ≤ len ∧ len ≤ 31) (h1 : len = (List.length hex)) (h2 : List.length t = 32) : List.length t - (32 - len) = List.length hex := by limb_bound
theorem LibFq_from_slice_bound4 (len : Nat) (hex : List UInt8) (t : List UInt8) (h0 : ¬ (1 ≤ len ∧ len ≤ 31)) (h1 : ¬ (len = 32)) (h2 : 33 ≤ len ∧ len ≤ 64) (h3 : len = (List.length hex)) (h4 : List.length t = 64) : len ≤ 64 := by limb_bound
theorem LibFq_from_slice_bound5 (len : Nat) (hex : List UInt8) (t : List UInt8) (h0 : ¬ (1 ≤ len ∧ len ≤ 31)) (h1 : ¬ (len = 32)) (h2 : 33 ≤ len ∧ len ≤ 64) (h3 : len = (List.length hex)) (h4 : List.length t = 64) : (64 - len) ≤ List.length t := by limb_bound
theorem LibFq_from_slice_bound6 (len : Nat) (hex : List UInt8) (t : List UInt8) (h0 : ¬ (1 ≤ len ∧ len ≤ 31)) (h1 : ¬ (len = 32)) (h2 : 33 ≤ len ∧ len ≤ 64) (h3 : len = (List.length hex)) (h4 : List.length t = 64) : List.length t - (64 - len) = List.length hex := by limb_bound

theorem Arith_adc_equiv (a : Nat) (b : Nat) (carry : Nat)  : Sm9.Gen.L.Arith.adc a b carry = Sm9.Limb.adc B64 a b carry := by limb_equiv Sm9.Gen.L.Arith.adc Sm9.Limb.adc []
theorem Arith_sbb_equiv (a : Nat) (b : Nat) (borrow : Nat)  : Sm9.Gen.L.Arith.sbb a b borrow = ((((a + 2 ^ 128 - (b + borrow >>> 63)) % 2 ^ 128) % B64), (((a + 2 ^ 128 - (b + borrow >>> 63)) % 2 ^ 128) / B64)) := by limb_spec Sm9.Gen.L.Arith.sbb []
theorem Arith_mac_equiv (a : Nat) (b : Nat) (c : Nat) (carry : Nat)  : Sm9.Gen.L.Arith.mac a b c carry = Sm9.Limb.mac B64 a b c carry := by limb_equiv Sm9.Gen.L.Arith.mac Sm9.Limb.mac []
theorem Arith_mac_discard_equiv (a : Nat) (b : Nat) (c : Nat) (carry : Nat)  : Sm9.Gen.L.Arith.mac_discard a b c carry = (Sm9.Limb.mac B64 a b c 0).2 := by limb_equiv Sm9.Gen.L.Arith.mac_discard Sm9.Limb.mac []
theorem Arith_mac_with_carry_macro_equiv (a : Nat) (b : Nat) (c : Nat) (carry : Nat)  : Sm9.Gen.L.Arith.mac_with_carry_macro a b c carry = ((Sm9.Limb.mac B64 a b c carry).2, (Sm9.Limb.mac B64 a b c carry).1) := by limb_spec Sm9.Gen.L.Arith.mac_with_carry_macro []
theorem Arith_adc_macro_equiv (a : Nat) (b : Nat) (carry : Nat)  : Sm9.Gen.L.Arith.adc_macro a b carry = ((Sm9.Limb.adc B64 a b carry).2, (Sm9.Limb.adc B64 a b carry).1) := by limb_spec Sm9.Gen.L.Arith.adc_macro []
theorem U256_zero_equiv   : Sm9.Gen.L.U256.zero  = (0 : Nat) := by limb_spec Sm9.Gen.L.U256.zero []
theorem U256_is_zero_equiv (self : Nat)  : Sm9.Gen.L.U256.is_zero self = (self == 0) := by limb_spec Sm9.Gen.L.U256.is_zero []
theorem U256_one_equiv   : Sm9.Gen.L.U256.one  = (1 : Nat) := by limb_spec Sm9.Gen.L.U256.one []
theorem U256_is_one_equiv (self : Nat)  : Sm9.Gen.L.U256.is_one self = (self == 1) := by limb_spec Sm9.Gen.L.U256.is_one []
theorem U256_is_even_equiv (self : Nat)  : Sm9.Gen.L.U256.is_even self = Sm9.Big.is_even self := by limb_equiv Sm9.Gen.L.U256.is_even Sm9.Big.is_even []
theorem U256_is_odd_equiv (self : Nat)  : Sm9.Gen.L.U256.is_odd self = Sm9.Big.is_odd self := by limb_equiv Sm9.Gen.L.U256.is_odd Sm9.Big.is_odd []
theorem U256_set_bit_equiv (self : Nat) (n : Nat) (to_ : Bool) (h0 : self < W256) : Sm9.Gen.L.U256.set_bit self n to_ = Sm9.U256.set_bit self n to_ := by limb_set_bit Sm9.Gen.L.U256.set_bit []
theorem U256_get_bit_equiv (self : Nat) (n : Nat)  : Sm9.Gen.L.U256.get_bit self n = Sm9.U256.get_bit self n := by limb_equiv Sm9.Gen.L.U256.get_bit Sm9.U256.get_bit []
theorem U256_subtract_modulus_with_carry_equiv (self : Nat) (modulo : Nat) (carry : Bool)  : Sm9.Gen.L.U256.subtract_modulus_with_carry self modulo carry = Sm9.U256.subtract_modulus_with_carry self modulo carry := by limb_equiv Sm9.Gen.L.U256.subtract_modulus_with_carry Sm9.U256.subtract_modulus_with_carry []
theorem U256_add_carry_loop1_equiv (fuel : Nat) : ∀ (self modulo : Nat), Sm9.Gen.L.U256.add_carry.loop1 fuel self modulo = Sm9.U256.add_carry fuel self modulo := by limb_loop fuel Sm9.Gen.L.U256.add_carry.loop1 Sm9.U256.add_carry []
theorem U256_add_carry_equiv (fuel : Nat) (self : Nat) (modulo : Nat)  : Sm9.Gen.L.U256.add_carry fuel self modulo = Sm9.U256.add_carry fuel self modulo := by limb_partial Sm9.Gen.L.U256.add_carry Sm9.U256.add_carry [U256_add_carry_loop1_equiv]
theorem U256_add_equiv (self : Nat) (other : Nat) (modulo : Nat)  : Sm9.Gen.L.U256.add self other modulo = Sm9.U256.add self other modulo := by limb_equiv Sm9.Gen.L.U256.add Sm9.U256.add [U256_subtract_modulus_with_carry_equiv]
theorem U256_sub_equiv (self : Nat) (other : Nat) (modulo : Nat)  : Sm9.Gen.L.U256.sub self other modulo = Sm9.U256.sub self other modulo := by limb_equiv Sm9.Gen.L.U256.sub Sm9.U256.sub []
theorem U256_mul2_equiv (self : Nat) (modulo : Nat)  : Sm9.Gen.L.U256.mul2 self modulo = Sm9.U256.mul2 self modulo := by limb_equiv Sm9.Gen.L.U256.mul2 Sm9.U256.mul2 [U256_subtract_modulus_with_carry_equiv]
theorem U256_div2_equiv (self : Nat) (modulo : Nat)  : Sm9.Gen.L.U256.div2 self modulo = Sm9.U256.div2 self modulo := by limb_equiv Sm9.Gen.L.U256.div2 Sm9.U256.div2 [U256_set_bit_equiv, U256_subtract_modulus_with_carry_equiv]
theorem U256_neg_equiv (self : Nat) (modulo : Nat)  : Sm9.Gen.L.U256.neg self modulo = Sm9.U256.neg self modulo := by limb_equiv Sm9.Gen.L.U256.neg Sm9.U256.neg [U256_is_zero_equiv]
theorem U256_mul_without_cond_subtract_equiv (self : Nat) (other : Nat) (modulo : Nat) (inv : Nat)  : Sm9.Gen.L.U256.mul_without_cond_subtract self other modulo inv = Sm9.U256.mul_without_cond_subtract self other modulo inv := by limb_heavy Sm9.Gen.L.U256.mul_without_cond_subtract
theorem U256_mul_equiv (self : Nat) (other : Nat) (modulo : Nat) (inv : Nat)  : Sm9.Gen.L.U256.mul self other modulo inv = Sm9.U256.mul self other modulo inv := by limb_equiv Sm9.Gen.L.U256.mul Sm9.U256.mul [U256_mul_without_cond_subtract_equiv, U256_subtract_modulus_with_carry_equiv]
theorem U256_square_equiv (self : Nat) (modulo : Nat) (inv : Nat)  : Sm9.Gen.L.U256.square self modulo inv = Sm9.U256.square self modulo inv := by limb_heavy Sm9.Gen.L.U256.square
theorem U256_invert_loop2_equiv (fuel : Nat) : ∀ (u b modulo : Nat), Sm9.Gen.L.U256.invert.loop2 fuel u b modulo = Sm9.U256.halve fuel u b modulo := by limb_loop fuel Sm9.Gen.L.U256.invert.loop2 Sm9.U256.halve [U256_div2_equiv, U256_is_even_equiv, U256_is_one_equiv, U256_sub_equiv, U256_zero_equiv]
theorem U256_invert_loop3_equiv (fuel : Nat) : ∀ (v c modulo : Nat), Sm9.Gen.L.U256.invert.loop3 fuel v c modulo = Sm9.U256.halve fuel v c modulo := by limb_loop fuel Sm9.Gen.L.U256.invert.loop3 Sm9.U256.halve [U256_div2_equiv, U256_is_even_equiv, U256_is_one_equiv, U256_sub_equiv, U256_zero_equiv, U256_invert_loop2_equiv]
theorem U256_invert_loop1_equiv (fuel : Nat) : ∀ (u v b c modulo : Nat), Option.map (fun (s : Nat × Nat × Nat × Nat) => if s.1 == 1 then s.2.2.1 else s.2.2.2) (Sm9.Gen.L.U256.invert.loop1 fuel u v b c modulo) = Sm9.U256.invLoop fuel u v b c modulo := by 
  induction fuel with
  | zero => intros; rfl
  | succ k ih =>
    intro u v b c m
    unfold Sm9.Gen.L.U256.invert.loop1 Sm9.U256.invLoop
    simp only [U256_div2_equiv, U256_is_even_equiv, U256_is_one_equiv, U256_sub_equiv, U256_zero_equiv, U256_invert_loop2_equiv, U256_invert_loop3_equiv, bne]
    by_cases hc : (!u == 1 && !v == 1) = true
    case neg => rw [if_neg hc, if_neg hc]; rfl
    rw [if_pos hc, if_pos hc]
    cases Sm9.U256.halve 600 u b m with
    | none => rfl
    | some p =>
      cases Sm9.U256.halve 600 v c m with
      | none => rfl
      | some q =>
        simp only [Option.bind_some]
        split <;> simp [← ih, *]
theorem U256_invert_equiv (self : Nat) (modulo : Nat) (rsquared : Nat)  : Sm9.Gen.L.U256.invert self modulo rsquared = Sm9.U256.invert self modulo rsquared := by 
  unfold Sm9.Gen.L.U256.invert Sm9.U256.invert
  simp only [← U256_invert_loop1_equiv, U256_div2_equiv, U256_is_even_equiv, U256_is_one_equiv, U256_sub_equiv, U256_zero_equiv]
  cases Sm9.Gen.L.U256.invert.loop1 1200 self modulo rsquared 0 modulo <;> simp
-- note (U256.from_slice): BigEndian::read_u64 is the model's beVal of the first 8 bytes
theorem U256_from_slice_equiv (s : List UInt8)  : Sm9.Gen.L.U256.from_slice s = Sm9.U256.from_slice s := by limb_nf Sm9.Gen.L.U256.from_slice [] Bytes.from_slice32_nf
-- note (U256.to_big_endian): BigInt::to_bytes_be is the model's beBytes
theorem U256_to_big_endian_equiv (self : Nat) (s : List UInt8)  : Option.map (fun _ => (Sm9.Gen.L.U256.to_big_endian self s).1) (Sm9.Gen.L.U256.to_big_endian self s).2 = Sm9.U256.to_big_endian self (List.length s) := by limb_equiv Sm9.Gen.L.U256.to_big_endian Sm9.U256.to_big_endian []
theorem BitIterator_next_equiv (self : (Nat × Nat))  : Sm9.Gen.L.BitIterator.next self = Bits.nextSpec self := by limb_spec Sm9.Gen.L.BitIterator.next [U256_get_bit_equiv]
theorem U256_bits_equiv (self : Nat)  : Sm9.Gen.L.U256.bits self = (self, 256) := by limb_spec Sm9.Gen.L.U256.bits []
-- note (U256.bits_without_leading_zeros): an iterator is translated as the list it yields (iterList next (n + 1) state); skip_while is List.dropWhile
theorem U256_bits_without_leading_zeros_equiv (self : Nat) (h0 : self < W256) : Sm9.Gen.L.U256.bits_without_leading_zeros self = bitsMSB self := by 
  unfold Sm9.Gen.L.U256.bits_without_leading_zeros
  have e : Sm9.Gen.L.BitIterator.next = Bits.nextSpec := funext BitIterator_next_equiv
  rw [e]
  exact Bits.bits_nf self h0
-- note (U512.from_slice): BigEndian::read_u64 is the model's beVal of the first 8 bytes
theorem U512_from_slice_equiv (s : List UInt8)  : Sm9.Gen.L.U512.from_slice s = Sm9.U512.from_slice s := by limb_nf Sm9.Gen.L.U512.from_slice [] Bytes.from_slice64_nf
-- note (U512.new): BigInt::to_bytes_be is the model's beBytes
theorem U512_new_equiv (c1 : Nat) (c0 : Nat) (modulo : Nat) (h0 : c1 < W256) (h1 : modulo < W256) : Sm9.Gen.L.U512.new c1 c0 modulo = Sm9.U512.new c1 c0 modulo := by limb_nf Sm9.Gen.L.U512.new [U256_one_equiv, U512_from_slice_equiv] (U512L.new_model_nf _ _ _ h0 h1)
theorem U512_bit_length_equiv (self : Nat)  : Sm9.Gen.L.U512.bit_length self = Sm9.Big.num_bits self := by limb_equiv Sm9.Gen.L.U512.bit_length Sm9.Big.num_bits []
theorem U512_get_bit_equiv (self : Nat) (n : Nat)  : Sm9.Gen.L.U512.get_bit self n = (if n ≥ 512 then none else some (Sm9.Big.get_bit self n)) := by limb_spec Sm9.Gen.L.U512.get_bit []
theorem U512_divrem_for1_equiv (self : Nat) (modulo : Nat) : ∀ (st : Option Nat × Nat) (i : Nat), U512L.QInv st → Sm9.Gen.L.U512.divrem.for1 self modulo st i = Sm9.U512.divStep self modulo st i := by 
  intro ⟨q, r⟩ i hq
  unfold Sm9.Gen.L.U512.divrem.for1 Sm9.U512.divStep
  have hr : (Big.mul2 W256 r).1 < W256 := by simp only [Big.mul2, W256]; omega
  cases q with
  | none =>
    simp (disch := limb_lt) only [U256_set_bit_equiv _ _ _ hr]
    (repeat' split) <;> limb_fin []
  | some q0 =>
    have hq0 : q0 < W256 := hq q0 rfl
    simp (disch := limb_lt) only [U256_set_bit_equiv _ _ _ hr, U256_set_bit_equiv _ _ _ hq0]
    (repeat' split) <;> limb_fin []
theorem U512_divrem_equiv (self : Nat) (modulo : Nat) (h0 : modulo < W256) : Sm9.Gen.L.U512.divrem self modulo = Sm9.U512.divrem self modulo := by 
  unfold Sm9.Gen.L.U512.divrem Sm9.U512.divrem
  simp only [U256_zero_equiv, U512_bit_length_equiv]
  obtain ⟨hfold, hinv⟩ := List.foldl_rel (r := fun a b => a = b ∧ U512L.QInv b)
    (f := fun st x => Sm9.Gen.L.U512.divrem.for1 self modulo st x) (g := Sm9.U512.divStep self modulo)
    (l := List.reverse (List.range (Big.num_bits self))) (a := (some 0, 0)) ⟨rfl, U512L.QInv_init⟩
    (fun x _ a _ ⟨rfl, hq⟩ => ⟨U512_divrem_for1_equiv self modulo a x hq, U512L.divStep_inv self modulo a x hq⟩)
  rw [hfold]
  generalize List.foldl (Sm9.U512.divStep self modulo) (some 0, 0) (List.range (Big.num_bits self)).reverse = st at hinv ⊢
  obtain ⟨q, r⟩ := st
  cases q with
  | none => rfl
  | some qv =>
    have hqv : qv < W256 := hinv qv rfl
    simp only [U512_new_equiv _ _ _ hqv h0, @BEq.comm Nat _ _ self]
    (repeat' split) <;> first | rfl | simp_all
theorem U512_interpret_equiv (buf : List UInt8)  : Sm9.Gen.L.U512.interpret buf = (Outcome.unwrap (Sm9.U512.from_slice buf)) := by limb_spec Sm9.Gen.L.U512.interpret [U512_from_slice_equiv]
-- note (U512.random): rng.gen::<BigInt<8>>() consumes eight u64 draws of the script, limb 0 first
theorem U512_random_equiv (rng : List Nat)  : Sm9.Gen.L.U512.random rng = (List.drop 8 rng, Limb.value B64 (List.take 8 rng)) := by limb_spec Sm9.Gen.L.U512.random []
theorem U256_random_equiv (rng : List Nat) (modulo : Nat) (h0 : modulo < W256) : Sm9.Gen.L.U256.random rng modulo = (List.drop 8 rng, (Sm9.U512.divrem (Limb.value B64 (List.take 8 rng)) modulo).1.2) := by limb_spec Sm9.Gen.L.U256.random [U512_divrem_equiv, U512_random_equiv]
theorem Fp_into_u256_equiv (P : MontParams) (a : Nat)  : Sm9.Gen.L.Fp.into_u256 P a = Sm9.Fp.into_u256 P a := by limb_equiv Sm9.Gen.L.Fp.into_u256 Sm9.Fp.into_u256 [U256_mul_equiv, U256_one_equiv]
theorem Fp_zero_equiv (P : MontParams)  : Sm9.Gen.L.Fp.zero P = Sm9.Fp.zero := by limb_equiv Sm9.Gen.L.Fp.zero Sm9.Fp.zero [U256_zero_equiv]
theorem Fp_is_zero_equiv (P : MontParams) (self : Nat)  : Sm9.Gen.L.Fp.is_zero P self = Sm9.Fp.is_zero self := by limb_equiv Sm9.Gen.L.Fp.is_zero Sm9.Fp.is_zero [U256_is_zero_equiv]
theorem Fp_one_equiv (P : MontParams)  : Sm9.Gen.L.Fp.one P = Sm9.Fp.one P := by limb_equiv Sm9.Gen.L.Fp.one Sm9.Fp.one []
theorem Fp_is_one_equiv (P : MontParams) (self : Nat)  : Sm9.Gen.L.Fp.is_one P self = (self == Sm9.Fp.one P) := by limb_spec Sm9.Gen.L.Fp.is_one [Fp_one_equiv]
theorem Fp_new_equiv (P : MontParams) (a : Nat)  : Sm9.Gen.L.Fp.new P a = Sm9.Fp.new P a := by limb_equiv Sm9.Gen.L.Fp.new Sm9.Fp.new [U256_is_zero_equiv, U256_mul_equiv]
theorem Fp_new_mul_factor_equiv (P : MontParams) (a : Nat)  : Sm9.Gen.L.Fp.new_mul_factor P a = Sm9.Fp.new_mul_factor P a := by limb_equiv Sm9.Gen.L.Fp.new_mul_factor Sm9.Fp.new_mul_factor [U256_mul_equiv]
theorem Fp_add_inplace_equiv (P : MontParams) (self : Nat) (other : Nat)  : Sm9.Gen.L.Fp.add_inplace P self other = Sm9.Fp.add P self other := by limb_equiv Sm9.Gen.L.Fp.add_inplace Sm9.Fp.add [U256_add_equiv]
theorem Fp_sub_inplace_equiv (P : MontParams) (self : Nat) (other : Nat)  : Sm9.Gen.L.Fp.sub_inplace P self other = Sm9.Fp.sub P self other := by limb_equiv Sm9.Gen.L.Fp.sub_inplace Sm9.Fp.sub [U256_sub_equiv]
theorem Fp_mul_inplace_equiv (P : MontParams) (self : Nat) (other : Nat)  : Sm9.Gen.L.Fp.mul_inplace P self other = Sm9.Fp.mul P self other := by limb_equiv Sm9.Gen.L.Fp.mul_inplace Sm9.Fp.mul [U256_mul_equiv]
theorem Fp_neg_inplace_equiv (P : MontParams) (self : Nat)  : Sm9.Gen.L.Fp.neg_inplace P self = Sm9.Fp.neg P self := by limb_equiv Sm9.Gen.L.Fp.neg_inplace Sm9.Fp.neg [U256_neg_equiv]
theorem Fp_inverse_equiv (P : MontParams) (self : Nat)  : Sm9.Gen.L.Fp.inverse P self = Sm9.Fp.inverse P self := by limb_partial Sm9.Gen.L.Fp.inverse Sm9.Fp.inverse [Fp_is_zero_equiv, U256_invert_equiv]
theorem Fp_double_equiv (P : MontParams) (self : Nat)  : Sm9.Gen.L.Fp.double P self = Sm9.Fp.double P self := by limb_equiv Sm9.Gen.L.Fp.double Sm9.Fp.double [U256_mul2_equiv]
theorem Fp_triple_equiv (P : MontParams) (self : Nat)  : Sm9.Gen.L.Fp.triple P self = Sm9.Fp.triple P self := by limb_equiv Sm9.Gen.L.Fp.triple Sm9.Fp.triple [Fp_add_inplace_equiv, Fp_double_equiv]
theorem Fp_squared_equiv (P : MontParams) (self : Nat)  : Sm9.Gen.L.Fp.squared P self = Sm9.Fp.squared P self := by limb_equiv Sm9.Gen.L.Fp.squared Sm9.Fp.squared [U256_square_equiv]
theorem Fp_set_bit_equiv (P : MontParams) (self : Nat) (bit : Nat) (to_ : Bool) (h0 : Sm9.Fp.into_u256 P self < W256) : Sm9.Gen.L.Fp.set_bit P self bit to_ = (Sm9.Fp.set_bit P self bit to_) := by limb_equiv Sm9.Gen.L.Fp.set_bit Sm9.Fp.set_bit [Fp_into_u256_equiv, Fp_new_mul_factor_equiv, U256_set_bit_equiv]
theorem Fp_modulus_equiv (P : MontParams)  : Sm9.Gen.L.Fp.modulus P = P.modulus := by limb_spec Sm9.Gen.L.Fp.modulus []
theorem Fp_from_slice_equiv (P : MontParams) (hex : List UInt8)  : Sm9.Gen.L.Fp.from_slice P hex = Sm9.Fp.from_slice P hex := by limb_equiv Sm9.Gen.L.Fp.from_slice Sm9.Fp.from_slice [Fp_new_equiv, U256_from_slice_equiv]
theorem Fp_to_slice_equiv (P : MontParams) (self : Nat)  : Sm9.Gen.L.Fp.to_slice P self = (Outcome.ok (Sm9.Fp.to_slice P self)) := by limb_spec Sm9.Gen.L.Fp.to_slice [Fp_into_u256_equiv, U256_to_big_endian_equiv]
theorem Fp_interpret_equiv (P : MontParams) (buf : List UInt8) (h0 : P.modulus < W256) : Sm9.Gen.L.Fp.interpret P buf = Sm9.Fp.interpret P buf := by limb_partial Sm9.Gen.L.Fp.interpret Sm9.Fp.interpret [Fp_new_equiv, U512_divrem_equiv, U512_interpret_equiv]
-- note (Fp.from_str): char::to_digit(10) is `if c.isDigit then some (c.toNat - 48) else none`
theorem Fp_from_str_equiv (P : MontParams) (s : List Char)  : Sm9.Gen.L.Fp.from_str P s = Sm9.Fp.from_str P s := by 
  unfold Sm9.Gen.L.Fp.from_str Sm9.Fp.from_str
  simp only [Fp_add_inplace_equiv, Fp_mul_inplace_equiv, Fp_one_equiv, Fp_zero_equiv, Option.bind_fun_some]
  congr 1
  funext st c
  unfold Sm9.Gen.L.Fp.from_str.for1
  simp only [Fp_add_inplace_equiv, Fp_mul_inplace_equiv, Fp_one_equiv, Fp_zero_equiv, Option.bind_fun_some]
  cases st with
  | none => rfl
  | some res =>
    simp only [Option.bind_some]
    cases hd : Char.isDigit c
    · simp
    · simp only [if_true]; kernel_rfl
theorem Fp_random_equiv (P : MontParams) (rng : List Nat) (h0 : P.modulus < W256) : Sm9.Gen.L.Fp.random P rng = (List.drop 8 rng, Sm9.Fp.random P rng) := by limb_spec Sm9.Gen.L.Fp.random [U256_random_equiv]
-- note (Fp.pow): `.into()` on a field element is From<Fp> for U256
theorem Fp_pow_equiv (P : MontParams) (self : Nat) (by_ : Nat) (h0 : Sm9.Fp.into_u256 P by_ < W256) : Sm9.Gen.L.Fp.pow P self by_ = Sm9.Fp.pow P self by_ := by limb_equiv Sm9.Gen.L.Fp.pow Sm9.Fp.pow [Fp_into_u256_equiv, Fp_mul_inplace_equiv, Fp_one_equiv, Fp_squared_equiv, U256_bits_without_leading_zeros_equiv, Sm9.Gen.L.Fp.pow.for1]
theorem Fq_div2_equiv (self : Nat)  : Sm9.Gen.L.Fq.div2 self = Sm9.Fp.div2 Sm9.FqL.P self := by limb_equiv Sm9.Gen.L.Fq.div2 Sm9.Fp.div2 [U256_div2_equiv, params_Fr_equiv, params_Fq_equiv, Sm9.FqL.P, Sm9.FqL.is_one, Sm9.FrL.P]
-- note (Fq.sqrt): FQ_MINUS1_DIV4 is the model constant FqL.minus1_div4
-- note (Fq.sqrt): FQ_MINUS5_DIV8 is the model constant FqL.minus5_div8
theorem Fq_sqrt_equiv (self : Nat)  : Sm9.Gen.L.Fq.sqrt self = Sm9.FqL.sqrt self := by limb_equiv Sm9.Gen.L.Fq.sqrt Sm9.FqL.sqrt [Fp_double_equiv, Fp_into_u256_equiv, Fp_is_one_equiv, Fp_is_zero_equiv, Fp_mul_inplace_equiv, Fp_neg_inplace_equiv, Fp_pow_equiv, Fp_zero_equiv, params_Fr_equiv, params_Fq_equiv, Sm9.FqL.P, Sm9.FqL.is_one, Sm9.FrL.P]
theorem Fq_sum_of_products_equiv (a : List Nat) (b : List Nat)  : Sm9.Gen.L.Fq.sum_of_products a b = Sm9.FqL.sum_of_products a b := by limb_sop Sm9.Gen.L.Fq.sum_of_products [Arith_adc_equiv, Arith_mac_equiv, U256_add_carry_equiv, U256_subtract_modulus_with_carry_equiv, params_Fr_equiv, params_Fq_equiv, Sm9.FqL.P, Sm9.FqL.is_one, Sm9.FrL.P, Sm9.Gen.L.Fq.sum_of_products.for1]
theorem Fr_from_hash_equiv (ha : List UInt8)  : Sm9.Gen.L.Fr.from_hash ha = Sm9.FrL.from_hash ha := by 
  unfold Sm9.Gen.L.Fr.from_hash Sm9.FrL.from_hash
  split
  · rfl
  · have hmin : min (64 - List.length ha) 64 = 64 - List.length ha := Nat.min_eq_left (Nat.sub_le _ _)
    simp (disch := limb_lt) only [Fp_add_inplace_equiv, Fp_into_u256_equiv, Fp_neg_inplace_equiv, Fp_new_equiv, Fp_one_equiv, U512_divrem_equiv, U512_interpret_equiv, params_Fr_equiv, params_Fq_equiv, Sm9.FqL.P, Sm9.FqL.is_one, Sm9.FrL.P, List.take_replicate, hmin]
    cases Sm9.U512.from_slice (List.replicate (64 - List.length ha) 0 ++ ha) <;> simp
theorem LibFr_new_mul_factor_equiv (val : Nat)  : Sm9.Gen.L.LibFr.new_mul_factor val = Sm9.Fp.new_mul_factor Sm9.paramsR val := by limb_lib Sm9.Gen.L.LibFr.new_mul_factor [Fp_new_mul_factor_equiv, params_Fr_equiv, params_Fq_equiv, Sm9.FqL.P, Sm9.FrL.P]
theorem LibFr_new_mul_factor_refines (val : Nat) (h0 : val < W256) : Sm9.Gen.L.LibFr.new_mul_factor val < Consts.FR ∧ Sm9.Fr.ofMont (Sm9.Gen.L.LibFr.new_mul_factor val) = Sm9.Fr.ofNat val := by rw [LibFr_new_mul_factor_equiv]; exact Sm9.Fp.Rep.new_mul_factor paramsR_ok h0
theorem LibFr_to_slice_equiv (self : Nat)  : Sm9.Gen.L.LibFr.to_slice self = (Outcome.ok (Sm9.Fp.to_slice Sm9.paramsR self)) := by limb_lib Sm9.Gen.L.LibFr.to_slice [Fp_to_slice_equiv, params_Fr_equiv, params_Fq_equiv, Sm9.FqL.P, Sm9.FrL.P]
theorem LibFr_to_slice_refines (self : Nat) (h0 : self < Consts.FR) : Sm9.Gen.L.LibFr.to_slice self = Outcome.ok (Sm9.Api.frToSlice (Sm9.Fr.ofMont self)) := by rw [LibFr_to_slice_equiv, Sm9.Fr.to_slice_refines self h0]
theorem LibFr_from_slice_equiv (hex : List UInt8)  : Sm9.Gen.L.LibFr.from_slice hex = Sm9.Fp.lib_from_slice Sm9.paramsR hex := by limb_lib Sm9.Gen.L.LibFr.from_slice [Fp_from_slice_equiv, Fp_interpret_equiv, LibFr_new_mul_factor_equiv, U256_from_slice_equiv, params_Fr_equiv, params_Fq_equiv, Sm9.FqL.P, Sm9.FrL.P]
theorem LibFr_from_slice_refines (hex : List UInt8)  : ∃ o, Sm9.Gen.L.LibFr.from_slice hex = Outcome.ok o ∧ o.map Sm9.Fr.ofMont = Sm9.Api.frFromSlice hex ∧ ∀ y, o = some y → y < Consts.FR := by rw [LibFr_from_slice_equiv]; exact (Sm9.Fp.lib_from_slice_rep paramsR_ok hex).imp fun _ h => ⟨h.1, h.2.map_ofMont⟩
theorem LibFq_new_mul_factor_equiv (val : Nat)  : Sm9.Gen.L.LibFq.new_mul_factor val = Sm9.Fp.new_mul_factor Sm9.paramsQ val := by limb_lib Sm9.Gen.L.LibFq.new_mul_factor [Fp_new_mul_factor_equiv, params_Fr_equiv, params_Fq_equiv, Sm9.FqL.P, Sm9.FrL.P]
theorem LibFq_new_mul_factor_refines (val : Nat) (h0 : val < W256) : Sm9.Gen.L.LibFq.new_mul_factor val < Consts.FQ ∧ Sm9.Fq.ofMont (Sm9.Gen.L.LibFq.new_mul_factor val) = Sm9.Fq.ofNat val := by rw [LibFq_new_mul_factor_equiv]; exact Sm9.Fp.Rep.new_mul_factor paramsQ_ok h0
-- note (LibFq.into_u256): `.into()` on a field element is From<Fp> for U256
theorem LibFq_into_u256_equiv (self : Nat)  : Sm9.Gen.L.LibFq.into_u256 self = Sm9.Fp.into_u256 Sm9.paramsQ self := by limb_lib Sm9.Gen.L.LibFq.into_u256 [Fp_into_u256_equiv, params_Fr_equiv, params_Fq_equiv, Sm9.FqL.P, Sm9.FrL.P]
theorem LibFq_into_u256_refines (self : Nat) (h0 : self < Consts.FQ) : Sm9.Gen.L.LibFq.into_u256 self = (Sm9.Fq.ofMont self).val := by rw [LibFq_into_u256_equiv]; exact Sm9.Fq.into_u256_refines self h0
-- note (LibFq.to_slice): `.into()` from a field element to [u8; 32] is From<Fp> for [u8; 32] = to_slice
theorem LibFq_to_slice_equiv (self : Nat)  : Sm9.Gen.L.LibFq.to_slice self = (Outcome.ok (Sm9.Fp.to_slice Sm9.paramsQ self)) := by limb_lib Sm9.Gen.L.LibFq.to_slice [Fp_to_slice_equiv, params_Fr_equiv, params_Fq_equiv, Sm9.FqL.P, Sm9.FrL.P]
theorem LibFq_to_slice_refines (self : Nat) (h0 : self < Consts.FQ) : Sm9.Gen.L.LibFq.to_slice self = Outcome.ok (Sm9.Api.fqToSlice (Sm9.Fq.ofMont self)) := by rw [LibFq_to_slice_equiv, Sm9.Fq.to_slice_refines self h0]
theorem LibFq_from_slice_equiv (hex : List UInt8)  : Sm9.Gen.L.LibFq.from_slice hex = Sm9.Fp.lib_from_slice Sm9.paramsQ hex := by limb_lib Sm9.Gen.L.LibFq.from_slice [Fp_from_slice_equiv, Fp_interpret_equiv, LibFq_new_mul_factor_equiv, U256_from_slice_equiv, params_Fr_equiv, params_Fq_equiv, Sm9.FqL.P, Sm9.FrL.P]
theorem LibFq_from_slice_refines (hex : List UInt8)  : ∃ o, Sm9.Gen.L.LibFq.from_slice hex = Outcome.ok o ∧ o.map Sm9.Fq.ofMont = Sm9.Api.fqFromSlice hex ∧ ∀ y, o = some y → y < Consts.FQ := by rw [LibFq_from_slice_equiv]; exact (Sm9.Fp.lib_from_slice_rep paramsQ_ok hex).imp fun _ h => ⟨h.1, h.2.map_ofMont⟩
theorem U512_one_equiv   : Sm9.Gen.L.U512.one  = (1 : Nat) := by limb_spec Sm9.Gen.L.U512.one []
theorem Fp_raw_equiv (P : MontParams) (self : Nat)  : Sm9.Gen.L.Fp.raw P self = self := by limb_spec Sm9.Gen.L.Fp.raw []
theorem LibFr_from_hash_equiv (hex : List UInt8)  : Sm9.Gen.L.LibFr.from_hash hex = Sm9.FrL.from_hash hex := by limb_lib Sm9.Gen.L.LibFr.from_hash [Fr_from_hash_equiv, params_Fr_equiv, params_Fq_equiv, Sm9.FqL.P, Sm9.FrL.P]
theorem LibFr_from_hash_refines (hex : List UInt8)  : ∃ o, Sm9.Gen.L.LibFr.from_hash hex = Outcome.ok o ∧ o.map Sm9.Fr.ofMont = Sm9.Api.frFromHash hex ∧ ∀ y, o = some y → y < Consts.FR := by rw [LibFr_from_hash_equiv]; exact (Sm9.Fr.from_hash_refines hex).imp fun _ h => ⟨h.1, h.2.map_ofMont⟩
theorem LibFr_zero_equiv   : Sm9.Gen.L.LibFr.zero  = Sm9.Fp.zero := by limb_lib Sm9.Gen.L.LibFr.zero [Fp_zero_equiv, params_Fr_equiv, params_Fq_equiv, Sm9.FqL.P, Sm9.FrL.P]
theorem LibFr_zero_refines   : Sm9.Fr.ofMont Sm9.Gen.L.LibFr.zero = 0 ∧ Sm9.Gen.L.LibFr.zero < Consts.FR := by rw [LibFr_zero_equiv]; exact ⟨(Sm9.Fp.Rep.zero paramsR_ok).2, paramsR_ok.pos⟩
theorem LibFr_one_equiv   : Sm9.Gen.L.LibFr.one  = Sm9.Fp.one Sm9.paramsR := by limb_lib Sm9.Gen.L.LibFr.one [Fp_one_equiv, params_Fr_equiv, params_Fq_equiv, Sm9.FqL.P, Sm9.FrL.P]
theorem LibFr_one_refines   : Sm9.Fr.ofMont Sm9.Gen.L.LibFr.one = 1 ∧ Sm9.Gen.L.LibFr.one < Consts.FR := by rw [LibFr_one_equiv]; exact ⟨(Sm9.Fp.Rep.one paramsR_ok).2, Sm9.Fp.one_lt paramsR_ok⟩
theorem LibFr_pow_equiv (self : Nat) (exp : Nat) (h0 : Sm9.Fp.into_u256 Sm9.paramsR exp < W256) : Sm9.Gen.L.LibFr.pow self exp = Sm9.Fp.pow Sm9.paramsR self exp := by limb_lib Sm9.Gen.L.LibFr.pow [Fp_pow_equiv, params_Fr_equiv, params_Fq_equiv, Sm9.FqL.P, Sm9.FrL.P]
theorem LibFr_pow_refines (self : Nat) (exp : Nat) (h0 : self < Consts.FR) (h1 : exp < Consts.FR) : Sm9.Gen.L.LibFr.pow self exp < Consts.FR ∧ Sm9.Fr.ofMont (Sm9.Gen.L.LibFr.pow self exp) = (Sm9.Fr.ofMont self).pow (Sm9.Fr.ofMont exp).val := by rw [LibFr_pow_equiv _ _ (lt_trans (Sm9.Fp.into_lt paramsR_ok exp (by assumption)) paramsR_ok.lt), Sm9.Fr.ofMont_val exp h1]; exact Sm9.Fp.Rep.pow paramsR_ok (Sm9.Fr.rep h0) exp
theorem LibFr_inverse_equiv (self : Nat)  : Sm9.Gen.L.LibFr.inverse self = Sm9.Fp.inverse Sm9.paramsR self := by limb_lib Sm9.Gen.L.LibFr.inverse [Fp_inverse_equiv, params_Fr_equiv, params_Fq_equiv, Sm9.FqL.P, Sm9.FrL.P]
theorem LibFr_inverse_refines (self : Nat) (h0 : self < Consts.FR) : ∃ o, Sm9.Gen.L.LibFr.inverse self = some o ∧ o.map Sm9.Fr.ofMont = (Sm9.Fr.ofMont self).inverse ∧ ∀ y, o = some y → y < Consts.FR := by rw [LibFr_inverse_equiv]; exact (Sm9.Fr.inverse_rep (Sm9.Fr.rep h0)).imp fun _ h => ⟨h.1, h.2.map_ofMont⟩
theorem LibFr_random_equiv (rng : List Nat)  : Sm9.Gen.L.LibFr.random rng = (List.drop 8 rng, Sm9.Fp.random Sm9.paramsR rng) := by limb_lib Sm9.Gen.L.LibFr.random [Fp_random_equiv, params_Fr_equiv, params_Fq_equiv, Sm9.FqL.P, Sm9.FrL.P]
theorem LibFr_random_refines (rng : List Nat)  : (Sm9.Gen.L.LibFr.random rng).2 = Sm9.Api.frRandomRaw rng ∧ (Sm9.Gen.L.LibFr.random rng).2 < Consts.FR ∧ (Sm9.Gen.L.LibFr.random rng).1 = List.drop 8 rng := by rw [LibFr_random_equiv]; exact ⟨(Sm9.Fr.random_refines rng).2, (Sm9.Fr.random_refines rng).1, rfl⟩
theorem LibFr_is_zero_equiv (self : Nat)  : Sm9.Gen.L.LibFr.is_zero self = Sm9.Fp.is_zero self := by limb_lib Sm9.Gen.L.LibFr.is_zero [Fp_is_zero_equiv, params_Fr_equiv, params_Fq_equiv, Sm9.FqL.P, Sm9.FrL.P]
theorem LibFr_is_zero_refines (self : Nat) (h0 : self < Consts.FR) : Sm9.Gen.L.LibFr.is_zero self = (Sm9.Fr.ofMont self).is_zero := by rw [LibFr_is_zero_equiv]; exact Sm9.Fr.is_zero_rep (Sm9.Fr.rep h0)
theorem LibFr_interpret_equiv (buf : List UInt8)  : Sm9.Gen.L.LibFr.interpret buf = Sm9.Fp.interpret Sm9.paramsR buf := by limb_lib Sm9.Gen.L.LibFr.interpret [Fp_interpret_equiv, params_Fr_equiv, params_Fq_equiv, Sm9.FqL.P, Sm9.FrL.P]
theorem LibFr_interpret_refines (buf : List UInt8) (h0 : List.length buf = 64) : ∃ y, Sm9.Gen.L.LibFr.interpret buf = Outcome.ok y ∧ y < Consts.FR ∧ Sm9.Fr.ofMont y = Sm9.Fr.ofNat (beVal buf) := by rw [LibFr_interpret_equiv]; exact Sm9.Fp.interpret_rep paramsR_ok buf h0
theorem LibFr_set_bit_equiv (self : Nat) (bit : Nat) (to_ : Bool) (h0 : Sm9.Fp.into_u256 Sm9.paramsR self < W256) : Sm9.Gen.L.LibFr.set_bit self bit to_ = (Sm9.Fp.set_bit Sm9.paramsR self bit to_) := by limb_lib Sm9.Gen.L.LibFr.set_bit [Fp_set_bit_equiv, params_Fr_equiv, params_Fq_equiv, Sm9.FqL.P, Sm9.FrL.P]
theorem LibFr_set_bit_refines (self : Nat) (bit : Nat) (to_ : Bool) (h0 : self < Consts.FR) : Sm9.Gen.L.LibFr.set_bit self bit to_ < Consts.FR ∧ Sm9.Fr.ofMont (Sm9.Gen.L.LibFr.set_bit self bit to_) = Sm9.Api.frSetBit (Sm9.Fr.ofMont self) bit to_ := by rw [LibFr_set_bit_equiv _ _ _ (lt_trans (Sm9.Fp.into_lt paramsR_ok self (by assumption)) paramsR_ok.lt)]; exact Sm9.Fr.set_bit_refines self bit to_ h0
-- note (LibFr.add_inplace): Add/Sub/Mul/Neg::{add,sub,mul,neg} on field elements are the *_inplace methods
theorem LibFr_add_inplace_equiv (self : Nat) (other : Nat)  : Sm9.Gen.L.LibFr.add_inplace self other = Sm9.Fp.add Sm9.paramsR self other := by limb_lib Sm9.Gen.L.LibFr.add_inplace [Fp_add_inplace_equiv, params_Fr_equiv, params_Fq_equiv, Sm9.FqL.P, Sm9.FrL.P]
theorem LibFr_add_inplace_refines (self : Nat) (other : Nat) (h0 : self < Consts.FR) (h1 : other < Consts.FR) : Sm9.Gen.L.LibFr.add_inplace self other < Consts.FR ∧ Sm9.Fr.ofMont (Sm9.Gen.L.LibFr.add_inplace self other) = Sm9.Fr.ofMont self + Sm9.Fr.ofMont other := by rw [LibFr_add_inplace_equiv]; exact Sm9.Fr.add_refines self other h0 h1
-- note (LibFr.sub_inplace): Add/Sub/Mul/Neg::{add,sub,mul,neg} on field elements are the *_inplace methods
theorem LibFr_sub_inplace_equiv (self : Nat) (other : Nat)  : Sm9.Gen.L.LibFr.sub_inplace self other = Sm9.Fp.sub Sm9.paramsR self other := by limb_lib Sm9.Gen.L.LibFr.sub_inplace [Fp_sub_inplace_equiv, params_Fr_equiv, params_Fq_equiv, Sm9.FqL.P, Sm9.FrL.P]
theorem LibFr_sub_inplace_refines (self : Nat) (other : Nat) (h0 : self < Consts.FR) (h1 : other < Consts.FR) : Sm9.Gen.L.LibFr.sub_inplace self other < Consts.FR ∧ Sm9.Fr.ofMont (Sm9.Gen.L.LibFr.sub_inplace self other) = Sm9.Fr.ofMont self - Sm9.Fr.ofMont other := by rw [LibFr_sub_inplace_equiv]; exact Sm9.Fr.sub_refines self other h0 h1
-- note (LibFr.mul_inplace): Add/Sub/Mul/Neg::{add,sub,mul,neg} on field elements are the *_inplace methods
theorem LibFr_mul_inplace_equiv (self : Nat) (other : Nat)  : Sm9.Gen.L.LibFr.mul_inplace self other = Sm9.Fp.mul Sm9.paramsR self other := by limb_lib Sm9.Gen.L.LibFr.mul_inplace [Fp_mul_inplace_equiv, params_Fr_equiv, params_Fq_equiv, Sm9.FqL.P, Sm9.FrL.P]
theorem LibFr_mul_inplace_refines (self : Nat) (other : Nat) (h0 : self < Consts.FR) (h1 : other < Consts.FR) : Sm9.Gen.L.LibFr.mul_inplace self other < Consts.FR ∧ Sm9.Fr.ofMont (Sm9.Gen.L.LibFr.mul_inplace self other) = Sm9.Fr.ofMont self * Sm9.Fr.ofMont other := by rw [LibFr_mul_inplace_equiv]; exact Sm9.Fr.mul_refines self other h0 h1
-- note (LibFr.neg_inplace): Add/Sub/Mul/Neg::{add,sub,mul,neg} on field elements are the *_inplace methods
theorem LibFr_neg_inplace_equiv (self : Nat)  : Sm9.Gen.L.LibFr.neg_inplace self = Sm9.Fp.neg Sm9.paramsR self := by limb_lib Sm9.Gen.L.LibFr.neg_inplace [Fp_neg_inplace_equiv, params_Fr_equiv, params_Fq_equiv, Sm9.FqL.P, Sm9.FrL.P]
theorem LibFr_neg_inplace_refines (self : Nat) (h0 : self < Consts.FR) : Sm9.Gen.L.LibFr.neg_inplace self < Consts.FR ∧ Sm9.Fr.ofMont (Sm9.Gen.L.LibFr.neg_inplace self) = - Sm9.Fr.ofMont self := by rw [LibFr_neg_inplace_equiv]; exact Sm9.Fr.neg_refines self h0
theorem LibFr_from_str_equiv (s : List Char)  : Sm9.Gen.L.LibFr.from_str s = Sm9.Fp.from_str Sm9.paramsR s := by limb_lib Sm9.Gen.L.LibFr.from_str [Fp_from_str_equiv, params_Fr_equiv, params_Fq_equiv, Sm9.FqL.P, Sm9.FrL.P]
theorem LibFr_from_str_refines (s : List Char)  : (Sm9.Gen.L.LibFr.from_str s).map Sm9.Fr.ofMont = Sm9.Api.frFromStr s ∧ ∀ y, Sm9.Gen.L.LibFr.from_str s = some y → y < Consts.FR := by rw [LibFr_from_str_equiv]; exact (Sm9.Fp.from_str_rep paramsR_ok s).map_ofMont
theorem LibFr_into_bytes_equiv (value : Nat)  : Sm9.Gen.L.LibFr.into_bytes value = (Outcome.ok (Sm9.Fp.to_slice Sm9.paramsR value)) := by limb_lib Sm9.Gen.L.LibFr.into_bytes [LibFr_to_slice_equiv, params_Fr_equiv, params_Fq_equiv, Sm9.FqL.P, Sm9.FrL.P]
theorem LibFr_into_bytes_refines (value : Nat) (h0 : value < Consts.FR) : Sm9.Gen.L.LibFr.into_bytes value = Outcome.ok (Sm9.Api.frToSlice (Sm9.Fr.ofMont value)) := by rw [LibFr_into_bytes_equiv, Sm9.Fr.to_slice_refines value h0]
theorem LibFr_into_bytes_ref_equiv (value : Nat)  : Sm9.Gen.L.LibFr.into_bytes_ref value = (Outcome.ok (Sm9.Fp.to_slice Sm9.paramsR value)) := by limb_lib Sm9.Gen.L.LibFr.into_bytes_ref [LibFr_to_slice_equiv, params_Fr_equiv, params_Fq_equiv, Sm9.FqL.P, Sm9.FrL.P]
theorem LibFr_into_bytes_ref_refines (value : Nat) (h0 : value < Consts.FR) : Sm9.Gen.L.LibFr.into_bytes_ref value = Outcome.ok (Sm9.Api.frToSlice (Sm9.Fr.ofMont value)) := by rw [LibFr_into_bytes_ref_equiv, Sm9.Fr.to_slice_refines value h0]
theorem LibFr_try_from_equiv (hex : List UInt8)  : Sm9.Gen.L.LibFr.try_from hex = Sm9.Fp.lib_from_slice Sm9.paramsR hex := by limb_lib Sm9.Gen.L.LibFr.try_from [LibFr_from_slice_equiv, params_Fr_equiv, params_Fq_equiv, Sm9.FqL.P, Sm9.FrL.P]
theorem LibFr_try_from_refines (hex : List UInt8)  : ∃ o, Sm9.Gen.L.LibFr.try_from hex = Outcome.ok o ∧ o.map Sm9.Fr.ofMont = Sm9.Api.frFromSlice hex ∧ ∀ y, o = some y → y < Consts.FR := by rw [LibFr_try_from_equiv]; exact (Sm9.Fp.lib_from_slice_rep paramsR_ok hex).imp fun _ h => ⟨h.1, h.2.map_ofMont⟩
theorem LibFq_zero_equiv   : Sm9.Gen.L.LibFq.zero  = Sm9.Fp.zero := by limb_lib Sm9.Gen.L.LibFq.zero [Fp_zero_equiv, params_Fr_equiv, params_Fq_equiv, Sm9.FqL.P, Sm9.FrL.P]
theorem LibFq_zero_refines   : Sm9.Fq.ofMont Sm9.Gen.L.LibFq.zero = 0 ∧ Sm9.Gen.L.LibFq.zero < Consts.FQ := by rw [LibFq_zero_equiv]; exact ⟨(Sm9.Fp.Rep.zero paramsQ_ok).2, paramsQ_ok.pos⟩
theorem LibFq_one_equiv   : Sm9.Gen.L.LibFq.one  = Sm9.Fp.one Sm9.paramsQ := by limb_lib Sm9.Gen.L.LibFq.one [Fp_one_equiv, params_Fr_equiv, params_Fq_equiv, Sm9.FqL.P, Sm9.FrL.P]
theorem LibFq_one_refines   : Sm9.Fq.ofMont Sm9.Gen.L.LibFq.one = 1 ∧ Sm9.Gen.L.LibFq.one < Consts.FQ := by rw [LibFq_one_equiv]; exact ⟨(Sm9.Fp.Rep.one paramsQ_ok).2, Sm9.Fp.one_lt paramsQ_ok⟩
theorem LibFq_pow_equiv (self : Nat) (exp : Nat) (h0 : Sm9.Fp.into_u256 Sm9.paramsQ exp < W256) : Sm9.Gen.L.LibFq.pow self exp = Sm9.Fp.pow Sm9.paramsQ self exp := by limb_lib Sm9.Gen.L.LibFq.pow [Fp_pow_equiv, params_Fr_equiv, params_Fq_equiv, Sm9.FqL.P, Sm9.FrL.P]
theorem LibFq_pow_refines (self : Nat) (exp : Nat) (h0 : self < Consts.FQ) (h1 : exp < Consts.FQ) : Sm9.Gen.L.LibFq.pow self exp < Consts.FQ ∧ Sm9.Fq.ofMont (Sm9.Gen.L.LibFq.pow self exp) = (Sm9.Fq.ofMont self).pow (Sm9.Fq.ofMont exp).val := by rw [LibFq_pow_equiv _ _ (lt_trans (Sm9.Fp.into_lt paramsQ_ok exp (by assumption)) paramsQ_ok.lt), Sm9.Fq.ofMont_val exp h1]; exact Sm9.Fp.Rep.pow paramsQ_ok (Sm9.Fq.rep h0) exp
theorem LibFq_inverse_equiv (self : Nat)  : Sm9.Gen.L.LibFq.inverse self = Sm9.Fp.inverse Sm9.paramsQ self := by limb_lib Sm9.Gen.L.LibFq.inverse [Fp_inverse_equiv, params_Fr_equiv, params_Fq_equiv, Sm9.FqL.P, Sm9.FrL.P]
theorem LibFq_inverse_refines (self : Nat) (h0 : self < Consts.FQ) : ∃ o, Sm9.Gen.L.LibFq.inverse self = some o ∧ o.map Sm9.Fq.ofMont = (Sm9.Fq.ofMont self).inverse ∧ ∀ y, o = some y → y < Consts.FQ := by rw [LibFq_inverse_equiv]; exact (Sm9.Fq.inverse_rep (Sm9.Fq.rep h0)).imp fun _ h => ⟨h.1, h.2.map_ofMont⟩
theorem LibFq_is_zero_equiv (self : Nat)  : Sm9.Gen.L.LibFq.is_zero self = Sm9.Fp.is_zero self := by limb_lib Sm9.Gen.L.LibFq.is_zero [Fp_is_zero_equiv, params_Fr_equiv, params_Fq_equiv, Sm9.FqL.P, Sm9.FrL.P]
theorem LibFq_is_zero_refines (self : Nat) (h0 : self < Consts.FQ) : Sm9.Gen.L.LibFq.is_zero self = (Sm9.Fq.ofMont self).is_zero := by rw [LibFq_is_zero_equiv]; exact Sm9.Fq.is_zero_rep (Sm9.Fq.rep h0)
theorem LibFq_is_even_equiv (self : Nat)  : Sm9.Gen.L.LibFq.is_even self = Sm9.Big.is_even (Sm9.Fp.into_u256 Sm9.paramsQ self) := by limb_lib Sm9.Gen.L.LibFq.is_even [LibFq_into_u256_equiv, U256_is_even_equiv, params_Fr_equiv, params_Fq_equiv, Sm9.FqL.P, Sm9.FrL.P]
theorem LibFq_is_even_refines (self : Nat) (h0 : self < Consts.FQ) : Sm9.Gen.L.LibFq.is_even self = (Sm9.Fq.ofMont self).is_even := by rw [LibFq_is_even_equiv]; exact Sm9.Fq.is_even_refines self h0
theorem LibFq_interpret_equiv (buf : List UInt8)  : Sm9.Gen.L.LibFq.interpret buf = Sm9.Fp.interpret Sm9.paramsQ buf := by limb_lib Sm9.Gen.L.LibFq.interpret [Fp_interpret_equiv, params_Fr_equiv, params_Fq_equiv, Sm9.FqL.P, Sm9.FrL.P]
theorem LibFq_interpret_refines (buf : List UInt8) (h0 : List.length buf = 64) : ∃ y, Sm9.Gen.L.LibFq.interpret buf = Outcome.ok y ∧ y < Consts.FQ ∧ Sm9.Fq.ofMont y = Sm9.Fq.ofNat (beVal buf) := by rw [LibFq_interpret_equiv]; exact Sm9.Fp.interpret_rep paramsQ_ok buf h0
theorem LibFq_to_big_endian_equiv (self : Nat) (slice : List UInt8)  : Option.map (fun _ => (Sm9.Gen.L.LibFq.to_big_endian self slice).1) (Sm9.Gen.L.LibFq.to_big_endian self slice).2 = Sm9.U256.to_big_endian (Sm9.Fp.into_u256 Sm9.paramsQ self) (List.length slice) := by limb_lib Sm9.Gen.L.LibFq.to_big_endian [LibFq_into_u256_equiv, U256_to_big_endian_equiv, params_Fr_equiv, params_Fq_equiv, Sm9.FqL.P, Sm9.FrL.P]
theorem LibFq_to_big_endian_refines (self : Nat) (slice : List UInt8) (h0 : self < Consts.FQ) : Option.map (fun _ => (Sm9.Gen.L.LibFq.to_big_endian self slice).1) (Sm9.Gen.L.LibFq.to_big_endian self slice).2 = Sm9.Api.fqToBigEndian (Sm9.Fq.ofMont self) (List.length slice) := by rw [LibFq_to_big_endian_equiv]; exact Sm9.Fq.to_big_endian_refines self h0 _
theorem LibFq_sqrt_equiv (self : Nat)  : Sm9.Gen.L.LibFq.sqrt self = Sm9.FqL.sqrt self := by limb_lib Sm9.Gen.L.LibFq.sqrt [Fq_sqrt_equiv, params_Fr_equiv, params_Fq_equiv, Sm9.FqL.P, Sm9.FrL.P]
theorem LibFq_sqrt_refines (self : Nat) (h0 : self < Consts.FQ) : (Sm9.Gen.L.LibFq.sqrt self).map Sm9.Fq.ofMont = (Sm9.Fq.ofMont self).sqrt ∧ ∀ y, Sm9.Gen.L.LibFq.sqrt self = some y → y < Consts.FQ := by rw [LibFq_sqrt_equiv]; exact (Sm9.Fq.sqrt_rep (Sm9.Fq.rep h0)).map_ofMont
-- note (LibFq.add_inplace): Add/Sub/Mul/Neg::{add,sub,mul,neg} on field elements are the *_inplace methods
theorem LibFq_add_inplace_equiv (self : Nat) (other : Nat)  : Sm9.Gen.L.LibFq.add_inplace self other = Sm9.Fp.add Sm9.paramsQ self other := by limb_lib Sm9.Gen.L.LibFq.add_inplace [Fp_add_inplace_equiv, params_Fr_equiv, params_Fq_equiv, Sm9.FqL.P, Sm9.FrL.P]
theorem LibFq_add_inplace_refines (self : Nat) (other : Nat) (h0 : self < Consts.FQ) (h1 : other < Consts.FQ) : Sm9.Gen.L.LibFq.add_inplace self other < Consts.FQ ∧ Sm9.Fq.ofMont (Sm9.Gen.L.LibFq.add_inplace self other) = Sm9.Fq.ofMont self + Sm9.Fq.ofMont other := by rw [LibFq_add_inplace_equiv]; exact Sm9.Fq.add_refines self other h0 h1
-- note (LibFq.sub_inplace): Add/Sub/Mul/Neg::{add,sub,mul,neg} on field elements are the *_inplace methods
theorem LibFq_sub_inplace_equiv (self : Nat) (other : Nat)  : Sm9.Gen.L.LibFq.sub_inplace self other = Sm9.Fp.sub Sm9.paramsQ self other := by limb_lib Sm9.Gen.L.LibFq.sub_inplace [Fp_sub_inplace_equiv, params_Fr_equiv, params_Fq_equiv, Sm9.FqL.P, Sm9.FrL.P]
theorem LibFq_sub_inplace_refines (self : Nat) (other : Nat) (h0 : self < Consts.FQ) (h1 : other < Consts.FQ) : Sm9.Gen.L.LibFq.sub_inplace self other < Consts.FQ ∧ Sm9.Fq.ofMont (Sm9.Gen.L.LibFq.sub_inplace self other) = Sm9.Fq.ofMont self - Sm9.Fq.ofMont other := by rw [LibFq_sub_inplace_equiv]; exact Sm9.Fq.sub_refines self other h0 h1
-- note (LibFq.mul_inplace): Add/Sub/Mul/Neg::{add,sub,mul,neg} on field elements are the *_inplace methods
theorem LibFq_mul_inplace_equiv (self : Nat) (other : Nat)  : Sm9.Gen.L.LibFq.mul_inplace self other = Sm9.Fp.mul Sm9.paramsQ self other := by limb_lib Sm9.Gen.L.LibFq.mul_inplace [Fp_mul_inplace_equiv, params_Fr_equiv, params_Fq_equiv, Sm9.FqL.P, Sm9.FrL.P]
theorem LibFq_mul_inplace_refines (self : Nat) (other : Nat) (h0 : self < Consts.FQ) (h1 : other < Consts.FQ) : Sm9.Gen.L.LibFq.mul_inplace self other < Consts.FQ ∧ Sm9.Fq.ofMont (Sm9.Gen.L.LibFq.mul_inplace self other) = Sm9.Fq.ofMont self * Sm9.Fq.ofMont other := by rw [LibFq_mul_inplace_equiv]; exact Sm9.Fq.mul_refines self other h0 h1
-- note (LibFq.neg_inplace): Add/Sub/Mul/Neg::{add,sub,mul,neg} on field elements are the *_inplace methods
theorem LibFq_neg_inplace_equiv (self : Nat)  : Sm9.Gen.L.LibFq.neg_inplace self = Sm9.Fp.neg Sm9.paramsQ self := by limb_lib Sm9.Gen.L.LibFq.neg_inplace [Fp_neg_inplace_equiv, params_Fr_equiv, params_Fq_equiv, Sm9.FqL.P, Sm9.FrL.P]
theorem LibFq_neg_inplace_refines (self : Nat) (h0 : self < Consts.FQ) : Sm9.Gen.L.LibFq.neg_inplace self < Consts.FQ ∧ Sm9.Fq.ofMont (Sm9.Gen.L.LibFq.neg_inplace self) = - Sm9.Fq.ofMont self := by rw [LibFq_neg_inplace_equiv]; exact Sm9.Fq.neg_refines self h0
theorem LibFq_from_str_equiv (s : List Char)  : Sm9.Gen.L.LibFq.from_str s = Sm9.Fp.from_str Sm9.paramsQ s := by limb_lib Sm9.Gen.L.LibFq.from_str [Fp_from_str_equiv, params_Fr_equiv, params_Fq_equiv, Sm9.FqL.P, Sm9.FrL.P]
theorem LibFq_from_str_refines (s : List Char)  : (Sm9.Gen.L.LibFq.from_str s).map Sm9.Fq.ofMont = Sm9.Api.fqFromStr s ∧ ∀ y, Sm9.Gen.L.LibFq.from_str s = some y → y < Consts.FQ := by rw [LibFq_from_str_equiv]; exact (Sm9.Fp.from_str_rep paramsQ_ok s).map_ofMont
theorem LibFq_into_bytes_equiv (value : Nat)  : Sm9.Gen.L.LibFq.into_bytes value = (Outcome.ok (Sm9.Fp.to_slice Sm9.paramsQ value)) := by limb_lib Sm9.Gen.L.LibFq.into_bytes [LibFq_to_slice_equiv, params_Fr_equiv, params_Fq_equiv, Sm9.FqL.P, Sm9.FrL.P]
theorem LibFq_into_bytes_refines (value : Nat) (h0 : value < Consts.FQ) : Sm9.Gen.L.LibFq.into_bytes value = Outcome.ok (Sm9.Api.fqToSlice (Sm9.Fq.ofMont value)) := by rw [LibFq_into_bytes_equiv, Sm9.Fq.to_slice_refines value h0]
theorem LibFq_try_from_equiv (hex : List UInt8)  : Sm9.Gen.L.LibFq.try_from hex = Sm9.Fp.lib_from_slice Sm9.paramsQ hex := by limb_lib Sm9.Gen.L.LibFq.try_from [LibFq_from_slice_equiv, params_Fr_equiv, params_Fq_equiv, Sm9.FqL.P, Sm9.FrL.P]
theorem LibFq_try_from_refines (hex : List UInt8)  : ∃ o, Sm9.Gen.L.LibFq.try_from hex = Outcome.ok o ∧ o.map Sm9.Fq.ofMont = Sm9.Api.fqFromSlice hex ∧ ∀ y, o = some y → y < Consts.FQ := by rw [LibFq_try_from_equiv]; exact (Sm9.Fp.lib_from_slice_rep paramsQ_ok hex).imp fun _ h => ⟨h.1, h.2.map_ofMont⟩


end Sm9.GenL
