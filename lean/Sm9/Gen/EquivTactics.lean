import Sm9.Gen.Rust
import Sm9.Proofs.Tower
import Mathlib.Data.Nat.Bitwise
import Sm9.Proofs.Codec
/-!
Tactics and bridging lemmas for the goals `generated = model` of `Gen/Equiv.lean` (printed by tools/gen_equiv.py).
Definitional equality comes first: the model was written function by function from the same source.  The alternatives
after it re-prove behaviour-preserving rewrites of the Rust text (DESIGN.md §4.0); after a change of meaning the
statement is false and every alternative fails.
-/
namespace Sm9.GenEquiv
open Sm9

theorem decide_eq_comm {α} [DecidableEq α] (a b : α) : decide (a = b) = decide (b = a) := decide_eq_decide.2 eq_comm
/-- the low bit is 0 or 1: `(n & 1) != 1` for `(n & 1) == 0` and vice versa -/
theorem and1_ne1 (n : Nat) : (!decide (n &&& 1 = 1)) = decide (n &&& 1 = 0) := by
  rw [Nat.and_one_is_mod]; rcases Nat.mod_two_eq_zero_or_one n with h | h <;> simp [h]
theorem and1_ne0 (n : Nat) : (!decide (n &&& 1 = 0)) = decide (n &&& 1 = 1) := by
  rw [Nat.and_one_is_mod]; rcases Nat.mod_two_eq_zero_or_one n with h | h <;> simp [h]
/-- `one() == z` for `z == one()` -/
theorem one_eq_comm_Fq (z : Fq) : decide ((1 : Fq) = z) = decide (z = 1) := decide_eq_comm _ _
theorem one_eq_comm_Fq2 (z : Fq2) : decide (Fq2.one = z) = decide (z = Fq2.one) := decide_eq_comm _ _

/-- introduce every argument (up to four) of the two functions compared; fails on a goal that is not between functions.  Under
    `with_reducible`: a `funext` that does not apply otherwise unfolds both sides in search of a function (119k heartbeats on the final
    exponentiation).  The names stay inside the macro: an alternative that speaks of an argument (`to_affine_equiv`: `a.z`) introduces it itself. -/
macro "funext_all" : tactic =>
  `(tactic| with_reducible (funext a; try funext b; try funext c; try funext d))

macro "equiv_rfl" : tactic => `(tactic| first | rfl | (funext_all; rfl))

open Lean Elab Tactic in
/-- `bounded n => tac`: run `tac` with its own budget of `n` thousand heartbeats (`n` ≤ 200 wherever it is used: a cap at or below a
    declaration's default limit, never a raise); exhausting it is an *ordinary* failure (a
    heartbeat timeout is otherwise not caught by `first` / `try`), so that the next alternative can be tried.  Proof search
    only — whatever is found is checked by the kernel as usual. -/
elab "bounded " n:num " => " tac:tacticSeq : tactic => do
  let s ← saveState
  tryCatchRuntimeEx
    (withCurrHeartbeats <| withTheReader Core.Context (fun c => { c with maxHeartbeats := n.getNat * 1000000 }) <| evalTactic tac)
    (fun e => do
      s.restore
      throwError "bounded: {e.toMessageData}")

/-! the panic monad: an extra `let e = call(..); e` around a tail call is `x >>= pure` -/
theorem Outcome.bind_pure' {α} (x : Outcome α) : (x >>= fun a => pure a) = x := by cases x <;> rfl
theorem Outcome.pure_bind' {α β} (a : α) (f : α → Outcome β) : (pure a >>= f) = f a := rfl
theorem Outcome.bind_assoc' {α β γ} (x : Outcome α) (f : α → Outcome β) (g : β → Outcome γ) :
    (x >>= f >>= g) = (x >>= fun a => f a >>= g) := by cases x <;> rfl

theorem Option.match_id' {α} (o : Option α) : (match o with | some t => some t | none => none) = o := by cases o <;> rfl

/-- thin wrappers: a `match` on the same call on both sides is split first (a bare `rfl` would try to evaluate the stuck
    scrutinee, e.g. `x.inverse`, through the whole tower before comparing the arms); then definitional equality, under its own
    budget; else unfold and normalise the panic monad (extra `let`s around calls) and
    `match o { Some(t) => Some(t), None => None }`, closing what is left by `rfl` -/
macro "equiv_unf" g:ident m:ident : tactic =>
  `(tactic| first
    | (bounded 20 => (funext_all; unfold $g $m; split <;> (try simp only [*]) <;> rfl))
    | (bounded 200 => equiv_rfl)
    | (funext_all; unfold $g; simp only [Option.match_id', Outcome.bind_pure', Outcome.pure_bind', Outcome.bind_assoc']; done)
    | (funext_all; unfold $g; split <;> simp_all; done)
    | (funext_all; unfold $g $m; simp only [Option.match_id', Outcome.bind_pure', Outcome.pure_bind', Outcome.bind_assoc'] <;> rfl))

/-- field-operation wrappers: definitional, else `ring1` (`b + a` for `a + b`) -/
macro "equiv_ring" g:ident : tactic =>
  `(tactic| first
    | equiv_rfl
    | (funext_all; unfold $g; (try dsimp only); ring1))

/-- tower functions: definitional equality under a small budget of its own (on terms that are *not* equal `rfl` can be
    slow, and a heartbeat timeout is not caught by `first`); for a function rewritten into an algebraically equal form,
    coordinates + `ring1`; then the same with `ring`, which also normalises inside the arguments of opaque calls — last,
    because `ring` accepts as soon as `ring_nf` makes progress, closed or not, and `first` would stop there -/
macro "equiv_tac" g:ident m:ident : tactic =>
  `(tactic| first
    | (bounded 20 => equiv_rfl)
    | (funext_all; unfold $g $m; ext <;> simp <;> ring1)
    | (funext_all; unfold $g $m; ext : 1 <;> simp <;> ring1)
    | (funext_all; unfold $g $m; ext : 1 <;> simp [Fq4.mul_by_nonresidue_eq, Fq4.squared_eq_mul, Fq4.double_eq, Fq2.mul_by_nonresidue_eq, Fq2.squared_eq_mul, Fq2.double_eq] <;> ring1)
    | (funext_all; unfold $g $m; ext <;> simp <;> ring)
    | (funext_all; unfold $g $m; ext : 1 <;> simp <;> ring)
    | (funext_all; unfold $g $m; ext : 1 <;> simp [Fq4.mul_by_nonresidue_eq, Fq4.squared_eq_mul, Fq4.double_eq, Fq2.mul_by_nonresidue_eq, Fq2.squared_eq_mul, Fq2.double_eq] <;> ring))

/-- `inverse` of a tower level: `Option`-valued; `norm.inverse().map(..)`, an explicit `match`, an `if let` … agree when
    the norms and the results agree as ring expressions -/
macro "inverse_equiv" g:ident m:ident : tactic =>
  `(tactic| first
    | (funext a; unfold $g $m; with_reducible rfl)
    | (funext a; unfold $g $m; simp only [Option.map]
       split <;> split <;> simp_all <;> (try (ext <;> simp <;> ring1)); done)
    | (funext a; unfold $g $m
       simp only [Option.map, Fq4.mul_by_nonresidue_eq, Fq4.squared_eq_mul, Fq4.double_eq, Fq2.mul_by_nonresidue_eq, Fq2.squared_eq_mul, Fq2.double_eq]
       ring_nf
       split <;> split <;> simp_all <;> (try (ext <;> simp <;> ring1)); done)
    | equiv_tac $g $m)

theorem Fq.squared_eq_mul' (a : Fq) : a.squared = a * a := rfl
theorem Fq.double_eq' (a : Fq) : a.double = a + a := rfl
theorem Fq2.one_eq_one : (1 : Fq2) = Fq2.one := rfl
/-- `x.is_zero()` respelled as `x == T::zero()` -/
theorem Fq.decide_eq_zero (a : Fq) : decide (a = 0) = a.is_zero := by
  rw [Bool.eq_iff_iff, decide_eq_true_iff, Fq.is_zero_iff]
theorem Fq2.decide_eq_zero (a : Fq2) : decide (a = Fq2.zero) = a.is_zero := by
  rw [Bool.eq_iff_iff, decide_eq_true_iff, Fq2.is_zero_iff]; rfl

/-- closing a goal `generated body = model body` about group formulas after both sides were unfolded: unfold the
    `FieldElement` operations to `+ *`, unroll small constant loops (`for _ in 0..3`), split every `if` / `match` on both
    sides (restructured control flow: `match` on a tuple of tests for an `if` chain, a conditional *value* for a conditional
    *return*, `.map(closure)` for `match`), decide the contradictory branches, and close each leaf coordinate-wise by `ring1`
    (re-associated formulas); `grind` last for leaves that need an equation between bound values (`inverse = some x`) -/
macro "g_close" : tactic =>
  `(tactic| (
       simp only [FieldElement.squared, FieldElement.double, FieldElement.triple, FieldElement.is_zero, FieldElement.beq,
         Fq2.squared_eq_mul, Fq2.double_eq, Fq2.triple_eq, Fq.squared_eq_mul', Fq.double_eq', Fq.decide_eq_zero, Fq2.decide_eq_zero, G.is_zero,
         Bool.not_eq_true', Bool.eq_false_iff, ne_eq, ite_not, List.range', List.foldl]
       repeat' (first
         | (split_ifs <;> (try simp only [*, ↓reduceIte, Bool.false_eq_true, if_true, if_false]))
         | (bounded 50 => split))
       all_goals (try simp only [*, ↓reduceIte, Bool.false_eq_true, if_true, if_false])
       all_goals (try (with_reducible rfl))
       all_goals (try (bounded 100 => simp_all))
       all_goals (try simp only [G.mk.injEq, AffineG.mk.injEq, Option.some.injEq])
       all_goals (repeat' apply And.intro)
       all_goals (try (with_reducible rfl))
       all_goals (try (first | exact True.intro | ring1 | (left; ring1) | (right; ring1) | (bounded 100 => grind)))
       done))

/-- group functions: `rfl`, else unfold the `FieldElement` operations to `+ *` on both sides, normalise every ring
    expression (`ring_nf`), orient equations canonically (`decide (a = b)` for `decide (b = a)`), and, if control flow was
    respelled (`if !c {B} else {A}`), split it (sound for any algebraically equal rewrite of a formula); each of these
    attempts has its own heartbeat budget, and `g_close` is the fallback -/
macro "g_tac" g:ident m:ident : tactic =>
  `(tactic| first
    | (bounded 200 => equiv_rfl)
    | (bounded 200 => (
       funext_all; unfold $g $m
       simp only [FieldElement.squared, FieldElement.double, FieldElement.triple, FieldElement.is_zero, FieldElement.beq,
         Fq2.squared_eq_mul, Fq2.double_eq, Fq2.triple_eq, G.mk.injEq, Fq.decide_eq_zero, Fq2.decide_eq_zero, G.is_zero,
         Bool.not_eq_true', Bool.eq_false_iff, ne_eq, ite_not]
       try (refine ⟨?_, ?_, ?_⟩)
       all_goals (try ring_nf)
       all_goals (try simp only [decide_eq_comm])
       all_goals (try trivial)
       all_goals (repeat' split)
       all_goals (try simp_all)
       all_goals (try (refine ⟨?_, ?_, ?_⟩ <;> ring1))
       done))
    | (funext_all; unfold $g $m; g_close))

/-- `to_affine`: same expression, but the `match` on the (stuck) inverse needs a case split; the coordinates may be
    respelled (`zinv * zinv` for `zinv.squared()`, commuted products): `ring1` per coordinate -/
macro "to_affine_equiv" g:ident : tactic =>
  `(tactic| first
    | (bounded 200 => (
             funext a; unfold $g Sm9.G.to_affine;
             simp only [FieldElement.is_zero, FieldElement.beq, FieldElement.inverse, FieldElement.squared,
               one_eq_comm_Fq, one_eq_comm_Fq2, Fq.decide_eq_zero, Fq2.decide_eq_zero, Fq2.one_eq_one];
             cases a.z.inverse <;> first
               | rfl
               | (simp only [Fq2.squared_eq_mul, Fq.squared_eq_mul']
                  repeat' split
                  all_goals (try rfl)
                  all_goals (try (simp_all; done))
                  all_goals (simp only [Option.some.injEq, AffineG.mk.injEq, true_and, and_true])
                  all_goals (first | ring1 | (constructor <;> ring1)))))
    | (funext a; unfold $g Sm9.G.to_affine
       simp only [FieldElement.inverse, one_eq_comm_Fq, one_eq_comm_Fq2, Fq2.one_eq_one, Option.map]
       g_close))

/-- `u128::BITS - SM9_LOOP_N.leading_zeros() - 1`, as the translator emits it, is the model's `loopBits` -/
theorem bits_eq : ((128 - (128 - Sm9.bitLen Consts.SM9_LOOP_N)) - 1) = loopBits := by decide

/-- `n & (1 << pos) != 0` is `testBit` -/
theorem bit_equiv (n pos : Nat) : (!decide ((n &&& ((1 <<< pos))) = 0)) = Sm9.bit n pos := by
  unfold Sm9.bit
  rw [Nat.one_shiftLeft, Nat.and_two_pow]
  cases h : n.testBit pos <;> simp

/-- a fold whose state pair is kept in the other order (the translator orders loop state alphabetically) -/
theorem foldl_swap {α β γ : Type} (F : β × α → γ → β × α) (G : α × β → γ → α × β) (a : α) (b : β) (l : List γ)
    (h : ∀ a b i, F (b, a) i = (G (a, b) i).swap) : List.foldl F (b, a) l = (List.foldl G (a, b) l).swap :=
  List.foldl_hom Prod.swap (g₁ := G) (init := (a, b)) fun x i => h x.1 x.2 i

theorem whileFuel_congr {σ : Type} (fuel : Nat) (c c' : σ → Bool) (b b' : σ → σ) (hc : ∀ s, c s = c' s) (hb : ∀ s, b s = b' s) (s : σ) :
    whileFuel fuel c b s = whileFuel fuel c' b' s := by
  have e1 : c = c' := funext hc
  have e2 : b = b' := funext hb
  rw [e1, e2]

/-- first loop of `pow` = `powStrip` -/
theorem powStrip_while (fuel : Nat) (base : Fq12) (exp : Nat) :
    whileFuel fuel (fun (s : Fq12 × Nat) => decide ((s.2 &&& 1) = 0)) (fun s => (s.1.squared, s.2 >>> 1)) (base, exp)
      = Fq12.powStrip fuel base exp := by
  induction fuel generalizing base exp with
  | zero => rfl
  | succ n ih =>
    unfold whileFuel Fq12.powStrip
    simp only [Nat.and_one_is_mod, Nat.shiftRight_one]
    by_cases h : exp % 2 = 0
    · simp only [h, decide_true, if_true, beq_self_eq_true]
      have := ih base.squared (exp / 2)
      simp only [Nat.and_one_is_mod, Nat.shiftRight_one] at this
      exact this
    · have h' : (exp % 2 == 0) = false := by simpa using h
      simp [h, h']

/-- second loop of `pow` = `powAcc` (the translator orders the state alphabetically: acc, base, exp) -/
theorem powAcc_while (fuel : Nat) (base acc : Fq12) (exp : Nat) :
    (whileFuel fuel (fun (s : Fq12 × Fq12 × Nat) => decide (s.2.2 > 1))
      (fun s => (if decide (((s.2.2 >>> 1) &&& 1) = 1) then s.1 * s.2.1.squared else s.1, s.2.1.squared, s.2.2 >>> 1)) (acc, base, exp)).1
      = Fq12.powAcc fuel base acc exp := by
  induction fuel generalizing base acc exp with
  | zero => rfl
  | succ n ih =>
    unfold whileFuel Fq12.powAcc
    by_cases h : exp > 1
    · simp only [h, decide_true, if_true]
      have := ih base.squared (if decide (((exp >>> 1) &&& 1) = 1) then acc * base.squared else acc) (exp >>> 1)
      rw [this]
      simp only [Nat.and_one_is_mod, Nat.shiftRight_one]
      congr 2
    · simp [h]

/-- `AffineGx::new(x, y).map_err(|_| NotMember).map(Into::into)` -/
theorem liftNew_eq {F} [FieldElement F] [GroupParams F] (x y : F) :
    (Except.map (fun a => Sm9.AffineG.to_jacobian a) (Except.mapError (fun _ => CurveError.NotMember) (Sm9.AffineG.new (F := F) x y)))
      = Api.liftNew x y := by
  unfold Api.liftNew
  cases Sm9.AffineG.new (F := F) x y <;> rfl

theorem getD0 (bs : List UInt8) (d : UInt8) : bs.getD 0 d = bs.headD d := by cases bs <;> rfl
theorem head_ne_iff (bs : List UInt8) (k : UInt8) (h : bs.length ≠ 0) :
    (¬ bs.head? = some k) ↔ ¬ (bs.headD 0).toNat = k.toNat := by
  cases bs with
  | nil => simp at h
  | cons b t => simp [UInt8.toNat_inj]

theorem u8_ne_toNat (b k : UInt8) (h : b ≠ k) : b.toNat ≠ k.toNat := fun e => h (UInt8.toNat_inj.mp e)

/-- `sign & 1 == 0` -/
theorem and_one_eq (n : Nat) : (decide ((n &&& 1) = 0)) = (n % 2 == 0) := by
  rw [Nat.and_one_is_mod]; cases h : n % 2 == 0 <;> simp_all

/-! Boolean comparisons up to the order of their operands (`a != b` for `b != a`, `!(a == b)` …): `simp` uses the two
    commutativity statements as ordered rewrites, so both sides of an equivalence reach the same normal form. -/
theorem not_decide_eq_bne (a b : Bool) : (!decide (a = b)) = (a != b) := by cases a <;> cases b <;> rfl
theorem decide_eq_beq' (a b : Bool) : (decide (a = b)) = (a == b) := by cases a <;> cases b <;> rfl
theorem bool_bne_comm (a b : Bool) : (a != b) = (b != a) := by cases a <;> cases b <;> rfl
theorem bool_beq_comm (a b : Bool) : (a == b) = (b == a) := by cases a <;> cases b <;> rfl

/-- the projective `==` of the model is symmetric on all triples (so `G::zero() != t` may be written `t != G::zero()`) -/
theorem G.eq_comm_Fq (a b : G Fq) : G.eq a b = G.eq b a := by
  unfold G.eq G.is_zero
  simp only [FieldElement.is_zero, FieldElement.beq, FieldElement.squared]
  simp only [decide_eq_comm (b.x * _) (a.x * _), decide_eq_comm (b.y * _) (a.y * _)]
  cases h1 : Fq.is_zero a.z <;> cases h2 : Fq.is_zero b.z <;> simp
theorem G.eq_comm_Fq2 (a b : G Fq2) : G.eq a b = G.eq b a := by
  unfold G.eq G.is_zero
  simp only [FieldElement.is_zero, FieldElement.beq, FieldElement.squared]
  simp only [decide_eq_comm (b.x * _) (a.x * _), decide_eq_comm (b.y * _) (a.y * _)]
  cases h1 : Fq2.is_zero a.z <;> cases h2 : Fq2.is_zero b.z <;> simp
theorem G.eq_zero_left_Fq (a : G Fq) : G.eq G.zero a = G.eq a G.zero := G.eq_comm_Fq _ _
theorem G.eq_zero_left_Fq2 (a : G Fq2) : G.eq G.zero a = G.eq a G.zero := G.eq_comm_Fq2 _ _

/-- `t == G::zero()` is `t.is_zero()` (`!t.is_zero()` for `t != G::zero()`) -/
theorem G.eq_zero_right_Fq (a : G Fq) : G.eq a G.zero = a.is_zero := by
  have hz : (G.zero : G Fq).is_zero = true := by decide
  unfold G.eq; cases h : a.is_zero <;> simp [hz]
theorem G.eq_zero_right_Fq2 (a : G Fq2) : G.eq a G.zero = a.is_zero := by
  have hz : (G.zero : G Fq2).is_zero = true := by decide
  unfold G.eq; cases h : a.is_zero <;> simp [hz]

theorem G.hadd_eq_add {F} [FieldElement F] (a b : G F) : a + b = a.add b := rfl

/-- decision trees (`AffineG::new`): same leaves under the same conditions, however the tests are nested, ordered
    (early return vs. if/else) or spelled (`G::zero() != t`) -/
macro "dtree_equiv" g:ident m:ident : tactic =>
  `(tactic| first
    | equiv_rfl
    | (funext a b; unfold $g $m
       simp only [G.eq_zero_left_Fq, G.eq_zero_left_Fq2, G.eq_zero_right_Fq, G.eq_zero_right_Fq2, FieldElement.beq, FieldElement.squared, FieldElement.is_zero,
         not_decide_eq_bne, decide_eq_beq', bool_bne_comm, bool_beq_comm, G.hadd_eq_add, Fq2.one_eq_one]
       try ring_nf
       repeat' split
       all_goals simp_all))

/-- decision trees of the lib.rs decoders, when `grind` alone does not close them: explicit `match`es in place of `?` /
    `ok_or` / `map_err` / `.map(Into::into)` (the model's `liftNew` is unfolded to its `match`), arguments of the opaque calls
    respelled as ring-equal terms (`x * (x * x)`): normalise, split every `if` / `match` on both sides, close each leaf -/
macro "lib_dtree" : tactic =>
  `(tactic| ((try unfold Api.liftNew)
             (try ring_nf)
             repeat' split
             all_goals (try (simp_all; done))
             all_goals (try grind)
             done))

theorem sliceCopy_tail (res src : List UInt8) (lo : Nat) (h : res.length = lo + src.length) :
    sliceCopy res lo none src = .ok (res.take lo ++ src) := by
  unfold sliceCopy
  simp only [Option.getD_none]
  rw [if_pos ⟨by omega, le_refl _, by omega⟩, List.drop_length, List.append_nil]

theorem sliceCopy_mid (res src : List UInt8) (lo hi : Nat) (h1 : lo ≤ hi) (h2 : hi ≤ res.length) (h3 : hi - lo = src.length) :
    sliceCopy res lo (some hi) src = .ok (res.take lo ++ src ++ res.drop hi) := by
  unfold sliceCopy
  simp only [Option.getD_some]
  rw [if_pos ⟨h1, h2, h3⟩]

theorem sliceCopy_mid_append (pre rest src : List UInt8) (lo hi : Nat) (hlo : lo = pre.length)
    (hhi : hi = lo + src.length) (h : src.length ≤ rest.length) :
    sliceCopy (pre ++ rest) lo (some hi) src = .ok (pre ++ src ++ rest.drop src.length) := by
  subst hlo hhi
  rw [sliceCopy_mid _ _ _ _ (Nat.le_add_right ..) (by rw [List.length_append]; omega) (Nat.add_sub_cancel_left ..),
    List.take_left, List.drop_length_add_append]

theorem sliceCopy_tail_append (pre rest src : List UInt8) (lo : Nat) (hlo : lo = pre.length)
    (h : rest.length = src.length) : sliceCopy (pre ++ rest) lo none src = .ok (pre ++ src) := by
  subst hlo
  rw [sliceCopy_tail _ _ _ (by rw [List.length_append, h]), List.take_left]

theorem sliceCopy_two (buf b1 b0 : List UInt8) (n : Nat) (hb : buf.length = n + n) (h1 : b1.length = n) (h0 : b0.length = n) :
    (Outcome.bind (sliceCopy buf 0 (some n) b1) fun r => sliceCopy r n none b0) = .ok (b1 ++ b0) := by
  rw [show sliceCopy buf 0 (some n) b1 = _ from sliceCopy_mid_append [] buf b1 0 n rfl (by omega) (by omega)]
  exact sliceCopy_tail_append b1 _ b0 n h1.symm (by rw [List.length_drop]; omega)

theorem sliceCopy_three (buf b2 b1 b0 : List UInt8) (n : Nat) (hb : buf.length = n + n + n) (h2 : b2.length = n)
    (h1 : b1.length = n) (h0 : b0.length = n) :
    (Outcome.bind (sliceCopy buf 0 (some n) b2) fun r =>
      Outcome.bind (sliceCopy r n (some (n + n)) b1) fun r => sliceCopy r (n + n) none b0) = .ok (b2 ++ b1 ++ b0) := by
  rw [show sliceCopy buf 0 (some n) b2 = _ from sliceCopy_mid_append [] buf b2 0 n rfl (by omega) (by omega)]
  show Outcome.bind (sliceCopy (b2 ++ _) n (some (n + n)) b1) _ = _
  rw [sliceCopy_mid_append b2 _ b1 n (n + n) h2.symm (by omega) (by rw [List.length_drop]; omega)]
  exact sliceCopy_tail_append (b2 ++ b1) _ b0 (n + n) (by rw [List.length_append]; omega)
    (by rw [List.length_drop, List.length_drop]; omega)

/-- `PartialEq for AffineG<P>`: coordinate-wise comparison is equality of the records -/
macro "affine_eq_equiv" g:ident : tactic =>
  `(tactic| (funext a b; unfold $g; cases a; cases b
             first
             | (simp [AffineG.mk.injEq]; done)
             | (simp [AffineG.mk.injEq, and_comm]; done)
             | grind))

theorem bind_congr_some {α β : Type} {o o' : Option α} {f f' : α → Option β} (h : o = o')
    (hf : ∀ a, o = some a → f a = f' a) : Option.bind o f = Option.bind o' f' :=
  h ▸ Option.bind_congr fun a ha => hf a ha

/-- a binder-free piece of a decision tree over opaque calls: `grind` with a small case-split budget (a wrong piece fails
    in seconds instead of exhausting the default budget); `ring_nf` first when the arguments of the opaque calls were
    rewritten into ring-equal forms (`w + a` for `a + w`) -/
macro "opt_leaf" : tactic =>
  `(tactic| first | rfl | grind (splits := 4) | (ring_nf <;> first | rfl | grind (splits := 4)))

/-- `Fq2::sqrt`: both sides are decision trees over the same (opaque) calls `Fq.sqrt`, `Fq.inverse`, `Fq.div2`.  The
    translation threads the captured `y` through a `match` and binds the `?`-carrying `if`s with `Option.bind`; the model
    uses `Option.bind` over explicit `Option` values.  The proof follows the common skeleton — two early-return tests (by
    congruence of `ite`; `split`, which rewrites both complete trees and is slow, only when the tests are spelt differently),
    then three nested binds (`w`, `y`, `z1`), peeled with `bind_congr_some` so that every piece is binder-free — and closes
    each piece with `opt_leaf`. -/
macro "fq2_sqrt_equiv" g:ident : tactic =>
  `(tactic| (funext x; unfold $g Sm9.Fq2.sqrt
             first
             | rfl
             | ((first | refine ite_congr rfl (fun _ => ?_) (fun _ => ?_) | split)
                · opt_leaf
                · (try dsimp only)
                  (first | refine ite_congr rfl (fun _ => ?_) (fun _ => ?_) | split)
                  · opt_leaf
                  · refine bind_congr_some (by opt_leaf) (fun w hw => ?_)
                    refine bind_congr_some (by opt_leaf) (fun y hy => ?_)
                    refine bind_congr_some (by opt_leaf) (fun z1 hz => ?_)
                    opt_leaf)))

macro "fq2_from_slice_equiv" g:ident : tactic =>
  `(tactic| (funext s; unfold $g Sm9.fq2FromSliceE Sm9.Api.fq2FromSlice
             first
             | grind
             | (by_cases h : s.length = 64
                · simp only [h, decide_true, Bool.not_true, Bool.false_eq_true, if_false, ne_eq, not_true_eq_false, if_true]
                  cases Api.fqFromSliceStrict (s.take 32) <;> cases Api.fqFromSliceStrict (s.drop 32) <;> rfl
                · simp [h])))

/-- forgetting the error of the SPEC `fq2FromSliceE` gives the model's decoder -/
theorem fq2FromSliceE_toOption (s : List UInt8) : (fq2FromSliceE s).toOption = Api.fq2FromSlice s := by
  unfold fq2FromSliceE Api.fq2FromSlice
  by_cases h : s.length = 64
  · simp only [h, ne_eq, not_true_eq_false, if_false, if_true]
    cases Api.fqFromSliceStrict (s.take 32) <;> cases Api.fqFromSliceStrict (s.drop 32) <;> rfl
  · simp only [h, ne_eq, not_false_eq_true, if_true, if_false]; rfl

end Sm9.GenEquiv
