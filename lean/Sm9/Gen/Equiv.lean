-- GENERATED by tools/gen_equiv.py on every run — do not edit.
import Sm9.Gen.Rust
import Sm9.Gen.EquivTactics
/-! Every definition translated from the current Rust source equals the model definition. -/
namespace Sm9.GenEquiv
open Sm9

theorem AffineG1_clone : @Sm9.Gen.AffineG1.clone = (fun (a : AffineG Fq) => a) := by equiv_rfl
theorem AffineG1_eq : @Sm9.Gen.AffineG1.eq = (fun (a b : AffineG Fq) => decide (a = b)) := by affine_eq_equiv Sm9.Gen.AffineG1.eq
theorem AffineG1_neg : @Sm9.Gen.AffineG1.neg = @Sm9.AffineG.neg Fq _ := by equiv_unf Sm9.Gen.AffineG1.neg Sm9.AffineG.neg
theorem AffineG1_new : @Sm9.Gen.AffineG1.new = @Sm9.AffineG.new Fq _ _ := by dtree_equiv Sm9.Gen.AffineG1.new Sm9.AffineG.new
theorem AffineG1_to_jacobian : @Sm9.Gen.AffineG1.to_jacobian = @Sm9.AffineG.to_jacobian Fq _ := by equiv_unf Sm9.Gen.AffineG1.to_jacobian Sm9.AffineG.to_jacobian
theorem AffineG1_x : @Sm9.Gen.AffineG1.x = (fun (a : AffineG Fq) => a.x) := by equiv_rfl
theorem AffineG1_x_mut : @Sm9.Gen.AffineG1.x_mut = (fun (a : AffineG Fq) => (a, a.x)) := by equiv_rfl
theorem AffineG1_y : @Sm9.Gen.AffineG1.y = (fun (a : AffineG Fq) => a.y) := by equiv_rfl
theorem AffineG1_y_mut : @Sm9.Gen.AffineG1.y_mut = (fun (a : AffineG Fq) => (a, a.y)) := by equiv_rfl
theorem AffineG2_clone : @Sm9.Gen.AffineG2.clone = (fun (a : AffineG Fq2) => a) := by equiv_rfl
theorem AffineG2_eq : @Sm9.Gen.AffineG2.eq = (fun (a b : AffineG Fq2) => decide (a = b)) := by affine_eq_equiv Sm9.Gen.AffineG2.eq
theorem AffineG2_neg : @Sm9.Gen.AffineG2.neg = @Sm9.AffineG.neg Fq2 _ := by equiv_unf Sm9.Gen.AffineG2.neg Sm9.AffineG.neg
theorem AffineG2_new : @Sm9.Gen.AffineG2.new = @Sm9.AffineG.new Fq2 _ _ := by dtree_equiv Sm9.Gen.AffineG2.new Sm9.AffineG.new
theorem AffineG2_to_jacobian : @Sm9.Gen.AffineG2.to_jacobian = @Sm9.AffineG.to_jacobian Fq2 _ := by equiv_unf Sm9.Gen.AffineG2.to_jacobian Sm9.AffineG.to_jacobian
theorem AffineG2_x : @Sm9.Gen.AffineG2.x = (fun (a : AffineG Fq2) => a.x) := by equiv_rfl
theorem AffineG2_x_mut : @Sm9.Gen.AffineG2.x_mut = (fun (a : AffineG Fq2) => (a, a.x)) := by equiv_rfl
theorem AffineG2_y : @Sm9.Gen.AffineG2.y = (fun (a : AffineG Fq2) => a.y) := by equiv_rfl
theorem AffineG2_y_mut : @Sm9.Gen.AffineG2.y_mut = (fun (a : AffineG Fq2) => (a, a.y)) := by equiv_rfl
theorem Fq12_add_inplace : @Sm9.Gen.Fq12.add_inplace = @Sm9.Fq12.add_inplace := by equiv_tac Sm9.Gen.Fq12.add_inplace Sm9.Fq12.add_inplace
theorem Fq12_double : @Sm9.Gen.Fq12.double = @Sm9.Fq12.double := by equiv_tac Sm9.Gen.Fq12.double Sm9.Fq12.double
theorem Fq12_final_exp : @Sm9.Gen.Fq12.final_exp = @Sm9.Fq12.final_exp := by equiv_unf Sm9.Gen.Fq12.final_exp Sm9.Fq12.final_exp
theorem Fq12_final_exp_last_chunk : @Sm9.Gen.Fq12.final_exp_last_chunk = @Sm9.Fq12.final_exp_last_chunk := by equiv_unf Sm9.Gen.Fq12.final_exp_last_chunk Sm9.Fq12.final_exp_last_chunk
theorem Fq12_final_exponentiation : @Sm9.Gen.Fq12.final_exponentiation = @Sm9.Fq12.final_exponentiation := by equiv_unf Sm9.Gen.Fq12.final_exponentiation Sm9.Fq12.final_exponentiation
theorem Fq12_final_exponentiation_first_chunk : @Sm9.Gen.Fq12.final_exponentiation_first_chunk = @Sm9.Fq12.final_exponentiation_first_chunk := by equiv_unf Sm9.Gen.Fq12.final_exponentiation_first_chunk Sm9.Fq12.final_exponentiation_first_chunk
theorem Fq12_final_exponentiation_last_chunk : @Sm9.Gen.Fq12.final_exponentiation_last_chunk = @Sm9.Fq12.final_exponentiation_last_chunk := by equiv_unf Sm9.Gen.Fq12.final_exponentiation_last_chunk Sm9.Fq12.final_exponentiation_last_chunk
theorem Fq12_frob1 : @Sm9.Gen.Fq12.frob1 = @Sm9.Fq12.frob1 := by equiv_tac Sm9.Gen.Fq12.frob1 Sm9.Fq12.frob1
theorem Fq12_frob2 : @Sm9.Gen.Fq12.frob2 = @Sm9.Fq12.frob2 := by equiv_tac Sm9.Gen.Fq12.frob2 Sm9.Fq12.frob2
theorem Fq12_frob3 : @Sm9.Gen.Fq12.frob3 = @Sm9.Fq12.frob3 := by equiv_tac Sm9.Gen.Fq12.frob3 Sm9.Fq12.frob3
theorem Fq12_frob6 : @Sm9.Gen.Fq12.frob6 = @Sm9.Fq12.frob6 := by equiv_tac Sm9.Gen.Fq12.frob6 Sm9.Fq12.frob6
theorem Fq12_inverse : @Sm9.Gen.Fq12.inverse = @Sm9.Fq12.inverse := by inverse_equiv Sm9.Gen.Fq12.inverse Sm9.Fq12.inverse
theorem Fq12_is_zero : @Sm9.Gen.Fq12.is_zero = @Sm9.Fq12.is_zero := by equiv_tac Sm9.Gen.Fq12.is_zero Sm9.Fq12.is_zero
theorem Fq12_mul_015 : @Sm9.Gen.Fq12.mul_015 = @Sm9.Fq12.mul_015 := by equiv_tac Sm9.Gen.Fq12.mul_015 Sm9.Fq12.mul_015
theorem Fq12_mul_by_nonresidue : @Sm9.Gen.Fq12.mul_by_nonresidue = @Sm9.Fq12.mul_by_nonresidue := by equiv_tac Sm9.Gen.Fq12.mul_by_nonresidue Sm9.Fq12.mul_by_nonresidue
theorem Fq12_mul_inplace : @Sm9.Gen.Fq12.mul_inplace = @Sm9.Fq12.mul_inplace := by equiv_tac Sm9.Gen.Fq12.mul_inplace Sm9.Fq12.mul_inplace
theorem Fq12_neg_inplace : @Sm9.Gen.Fq12.neg_inplace = @Sm9.Fq12.neg_inplace := by equiv_tac Sm9.Gen.Fq12.neg_inplace Sm9.Fq12.neg_inplace
theorem Fq12_new : @Sm9.Gen.Fq12.new = @Sm9.Fq12.new := by equiv_tac Sm9.Gen.Fq12.new Sm9.Fq12.new
theorem Fq12_one : @Sm9.Gen.Fq12.one = @Sm9.Fq12.one := by equiv_tac Sm9.Gen.Fq12.one Sm9.Fq12.one
theorem Fq12_pow : @Sm9.Gen.Fq12.pow = @Sm9.Fq12.pow_u128 := by 
  funext x e
  unfold Sm9.Gen.Fq12.pow Sm9.Fq12.pow_u128
  by_cases h0 : e = 0
  · simp [h0]
  · have h0' : (e == 0) = false := by simpa using h0
    simp only [h0, h0', decide_false, Bool.false_eq_true, if_false]
    rw [whileFuel_congr 128 _ (fun s => decide ((s.2 &&& 1) = 0)) _ (fun s => (s.1.squared, s.2 >>> 1))
          (by rintro ⟨b, n⟩; first | rfl | simp only [and1_ne1, and1_ne0, decide_eq_comm (1 : Nat) _]) (by rintro ⟨b, n⟩; rfl), powStrip_while]
    generalize Fq12.powStrip 128 x e = st
    obtain ⟨b, n⟩ := st
    by_cases h1 : n = 1
    · simp [h1]
    · have h1' : (n == 1) = false := by simpa using h1
      simp only [h1, h1', decide_false, Bool.false_eq_true, if_false]
      rw [whileFuel_congr 128 _ (fun s => decide (s.2.2 > 1)) _
            (fun s => (if decide (((s.2.2 >>> 1) &&& 1) = 1) then s.1 * s.2.1.squared else s.1, s.2.1.squared, s.2.2 >>> 1))
            (by rintro ⟨a, b, n⟩; first | rfl | simp only [and1_ne1, and1_ne0, decide_eq_comm (1 : Nat) _]) (by rintro ⟨a, b, n⟩; first | rfl | simp only [and1_ne1, and1_ne0, decide_eq_comm (1 : Nat) _])]
      exact powAcc_while 128 b b n
theorem Fq12_random : @Sm9.Gen.Fq12.random = @Sm9.Fq12.randomS := by equiv_unf Sm9.Gen.Fq12.random Sm9.Fq12.randomS
theorem Fq12_scale : @Sm9.Gen.Fq12.scale = @Sm9.Fq12.scale := by equiv_tac Sm9.Gen.Fq12.scale Sm9.Fq12.scale
theorem Fq12_squared : @Sm9.Gen.Fq12.squared = @Sm9.Fq12.squared := by equiv_tac Sm9.Gen.Fq12.squared Sm9.Fq12.squared
theorem Fq12_sub_inplace : @Sm9.Gen.Fq12.sub_inplace = @Sm9.Fq12.sub_inplace := by equiv_tac Sm9.Gen.Fq12.sub_inplace Sm9.Fq12.sub_inplace
theorem Fq12_to_slice (a : Fq12) : Sm9.Gen.Fq12.to_slice a = .ok (Sm9.Api.fq12ToSlice a) := by
  unfold Sm9.Gen.Fq12.to_slice Sm9.Api.fq12ToSlice
  exact sliceCopy_three _ _ _ _ 128 (List.length_replicate ..) (Api.fq4ToSlice_length _) (Api.fq4ToSlice_length _) (Api.fq4ToSlice_length _)
theorem Fq12_triple : @Sm9.Gen.Fq12.triple = @Sm9.Fq12.triple := by equiv_tac Sm9.Gen.Fq12.triple Sm9.Fq12.triple
theorem Fq12_zero : @Sm9.Gen.Fq12.zero = @Sm9.Fq12.zero := by equiv_tac Sm9.Gen.Fq12.zero Sm9.Fq12.zero
theorem Fq2_add_inplace : @Sm9.Gen.Fq2.add_inplace = @Sm9.Fq2.add_inplace := by equiv_tac Sm9.Gen.Fq2.add_inplace Sm9.Fq2.add_inplace
theorem Fq2_div2 : @Sm9.Gen.Fq2.div2 = @Sm9.Fq2.div2 := by equiv_tac Sm9.Gen.Fq2.div2 Sm9.Fq2.div2
theorem Fq2_double : @Sm9.Gen.Fq2.double = @Sm9.Fq2.double := by equiv_tac Sm9.Gen.Fq2.double Sm9.Fq2.double
theorem Fq2_from_slice : @Sm9.Gen.Fq2.from_slice = @Sm9.fq2FromSliceE := by fq2_from_slice_equiv Sm9.Gen.Fq2.from_slice
theorem Fq2_from_slice_toOption (s : List UInt8) : (Sm9.Gen.Fq2.from_slice s).toOption = Sm9.Api.fq2FromSlice s := by
  rw [Fq2_from_slice]; exact fq2FromSliceE_toOption s
theorem Fq2_i : @Sm9.Gen.Fq2.i = @Sm9.Fq2.i := by equiv_tac Sm9.Gen.Fq2.i Sm9.Fq2.i
theorem Fq2_imaginary : @Sm9.Gen.Fq2.imaginary = @Sm9.Fq2.imaginary := by equiv_tac Sm9.Gen.Fq2.imaginary Sm9.Fq2.imaginary
theorem Fq2_inverse : @Sm9.Gen.Fq2.inverse = @Sm9.Fq2.inverse := by inverse_equiv Sm9.Gen.Fq2.inverse Sm9.Fq2.inverse
theorem Fq2_is_zero : @Sm9.Gen.Fq2.is_zero = @Sm9.Fq2.is_zero := by equiv_tac Sm9.Gen.Fq2.is_zero Sm9.Fq2.is_zero
theorem Fq2_mul_by_nonresidue : @Sm9.Gen.Fq2.mul_by_nonresidue = @Sm9.Fq2.mul_by_nonresidue := by equiv_tac Sm9.Gen.Fq2.mul_by_nonresidue Sm9.Fq2.mul_by_nonresidue
theorem Fq2_mul_inplace : @Sm9.Gen.Fq2.mul_inplace = @Sm9.Fq2.mul_inplace := by equiv_tac Sm9.Gen.Fq2.mul_inplace Sm9.Fq2.mul_inplace
theorem Fq2_neg_inplace : @Sm9.Gen.Fq2.neg_inplace = @Sm9.Fq2.neg_inplace := by equiv_tac Sm9.Gen.Fq2.neg_inplace Sm9.Fq2.neg_inplace
theorem Fq2_new : @Sm9.Gen.Fq2.new = @Sm9.Fq2.new := by equiv_tac Sm9.Gen.Fq2.new Sm9.Fq2.new
theorem Fq2_one : @Sm9.Gen.Fq2.one = @Sm9.Fq2.one := by equiv_tac Sm9.Gen.Fq2.one Sm9.Fq2.one
theorem Fq2_random : @Sm9.Gen.Fq2.random = @Sm9.Fq2.randomS := by equiv_unf Sm9.Gen.Fq2.random Sm9.Fq2.randomS
theorem Fq2_real : @Sm9.Gen.Fq2.real = @Sm9.Fq2.real := by equiv_tac Sm9.Gen.Fq2.real Sm9.Fq2.real
theorem Fq2_scale : @Sm9.Gen.Fq2.scale = @Sm9.Fq2.scale := by equiv_tac Sm9.Gen.Fq2.scale Sm9.Fq2.scale
theorem Fq2_sqrt : @Sm9.Gen.Fq2.sqrt = @Sm9.Fq2.sqrt := by fq2_sqrt_equiv Sm9.Gen.Fq2.sqrt
theorem Fq2_squared : @Sm9.Gen.Fq2.squared = @Sm9.Fq2.squared := by equiv_tac Sm9.Gen.Fq2.squared Sm9.Fq2.squared
theorem Fq2_sub_inplace : @Sm9.Gen.Fq2.sub_inplace = @Sm9.Fq2.sub_inplace := by equiv_tac Sm9.Gen.Fq2.sub_inplace Sm9.Fq2.sub_inplace
theorem Fq2_to_slice (a : Fq2) : Sm9.Gen.Fq2.to_slice a = .ok (Sm9.Api.fq2ToSlice a) := by
  unfold Sm9.Gen.Fq2.to_slice Sm9.Api.fq2ToSlice
  exact sliceCopy_two _ _ _ 32 (List.length_replicate ..) (Api.fqToSlice_length _) (Api.fqToSlice_length _)
-- Fq2.to_u512: skipped: type U512 (limb level: `U512::new` / `From<Fq> for U256` are covered by Gen/LimbEquiv.lean; this value-level wrapper is not translated)
theorem Fq2_triple : @Sm9.Gen.Fq2.triple = @Sm9.Fq2.triple := by equiv_tac Sm9.Gen.Fq2.triple Sm9.Fq2.triple
theorem Fq2_unitary_inverse : @Sm9.Gen.Fq2.unitary_inverse = @Sm9.Fq2.unitary_inverse := by equiv_tac Sm9.Gen.Fq2.unitary_inverse Sm9.Fq2.unitary_inverse
theorem Fq2_zero : @Sm9.Gen.Fq2.zero = @Sm9.Fq2.zero := by equiv_tac Sm9.Gen.Fq2.zero Sm9.Fq2.zero
theorem Fq4_add_inplace : @Sm9.Gen.Fq4.add_inplace = @Sm9.Fq4.add_inplace := by equiv_tac Sm9.Gen.Fq4.add_inplace Sm9.Fq4.add_inplace
theorem Fq4_double : @Sm9.Gen.Fq4.double = @Sm9.Fq4.double := by equiv_tac Sm9.Gen.Fq4.double Sm9.Fq4.double
theorem Fq4_frob10 : @Sm9.Gen.Fq4.frob10 = @Sm9.Fq4.frob10 := by equiv_tac Sm9.Gen.Fq4.frob10 Sm9.Fq4.frob10
theorem Fq4_frob11 : @Sm9.Gen.Fq4.frob11 = @Sm9.Fq4.frob11 := by equiv_tac Sm9.Gen.Fq4.frob11 Sm9.Fq4.frob11
theorem Fq4_frob12 : @Sm9.Gen.Fq4.frob12 = @Sm9.Fq4.frob12 := by equiv_tac Sm9.Gen.Fq4.frob12 Sm9.Fq4.frob12
theorem Fq4_frob21 : @Sm9.Gen.Fq4.frob21 = @Sm9.Fq4.frob21 := by equiv_tac Sm9.Gen.Fq4.frob21 Sm9.Fq4.frob21
theorem Fq4_frob22 : @Sm9.Gen.Fq4.frob22 = @Sm9.Fq4.frob22 := by equiv_tac Sm9.Gen.Fq4.frob22 Sm9.Fq4.frob22
theorem Fq4_frob30 : @Sm9.Gen.Fq4.frob30 = @Sm9.Fq4.frob30 := by equiv_tac Sm9.Gen.Fq4.frob30 Sm9.Fq4.frob30
theorem Fq4_frob31 : @Sm9.Gen.Fq4.frob31 = @Sm9.Fq4.frob31 := by equiv_tac Sm9.Gen.Fq4.frob31 Sm9.Fq4.frob31
theorem Fq4_frob32 : @Sm9.Gen.Fq4.frob32 = @Sm9.Fq4.frob32 := by equiv_tac Sm9.Gen.Fq4.frob32 Sm9.Fq4.frob32
theorem Fq4_inverse : @Sm9.Gen.Fq4.inverse = @Sm9.Fq4.inverse := by inverse_equiv Sm9.Gen.Fq4.inverse Sm9.Fq4.inverse
theorem Fq4_is_zero : @Sm9.Gen.Fq4.is_zero = @Sm9.Fq4.is_zero := by equiv_tac Sm9.Gen.Fq4.is_zero Sm9.Fq4.is_zero
theorem Fq4_mul_1 : @Sm9.Gen.Fq4.mul_1 = @Sm9.Fq4.mul_1 := by equiv_tac Sm9.Gen.Fq4.mul_1 Sm9.Fq4.mul_1
theorem Fq4_mul_by_nonresidue : @Sm9.Gen.Fq4.mul_by_nonresidue = @Sm9.Fq4.mul_by_nonresidue := by equiv_tac Sm9.Gen.Fq4.mul_by_nonresidue Sm9.Fq4.mul_by_nonresidue
theorem Fq4_mul_inplace : @Sm9.Gen.Fq4.mul_inplace = @Sm9.Fq4.mul_inplace := by equiv_tac Sm9.Gen.Fq4.mul_inplace Sm9.Fq4.mul_inplace
theorem Fq4_neg_inplace : @Sm9.Gen.Fq4.neg_inplace = @Sm9.Fq4.neg_inplace := by equiv_tac Sm9.Gen.Fq4.neg_inplace Sm9.Fq4.neg_inplace
theorem Fq4_new : @Sm9.Gen.Fq4.new = @Sm9.Fq4.new := by equiv_tac Sm9.Gen.Fq4.new Sm9.Fq4.new
theorem Fq4_one : @Sm9.Gen.Fq4.one = @Sm9.Fq4.one := by equiv_tac Sm9.Gen.Fq4.one Sm9.Fq4.one
theorem Fq4_random : @Sm9.Gen.Fq4.random = @Sm9.Fq4.randomS := by equiv_unf Sm9.Gen.Fq4.random Sm9.Fq4.randomS
theorem Fq4_scale : @Sm9.Gen.Fq4.scale = @Sm9.Fq4.scale := by equiv_tac Sm9.Gen.Fq4.scale Sm9.Fq4.scale
theorem Fq4_scale_fq : @Sm9.Gen.Fq4.scale_fq = @Sm9.Fq4.scale_fq := by equiv_tac Sm9.Gen.Fq4.scale_fq Sm9.Fq4.scale_fq
theorem Fq4_squared : @Sm9.Gen.Fq4.squared = @Sm9.Fq4.squared := by equiv_tac Sm9.Gen.Fq4.squared Sm9.Fq4.squared
theorem Fq4_sub_inplace : @Sm9.Gen.Fq4.sub_inplace = @Sm9.Fq4.sub_inplace := by equiv_tac Sm9.Gen.Fq4.sub_inplace Sm9.Fq4.sub_inplace
theorem Fq4_to_slice (a : Fq4) : Sm9.Gen.Fq4.to_slice a = .ok (Sm9.Api.fq4ToSlice a) := by
  unfold Sm9.Gen.Fq4.to_slice Sm9.Api.fq4ToSlice
  exact sliceCopy_two _ _ _ 64 (List.length_replicate ..) (Api.fq2ToSlice_length _) (Api.fq2ToSlice_length _)
theorem Fq4_triple : @Sm9.Gen.Fq4.triple = @Sm9.Fq4.triple := by equiv_tac Sm9.Gen.Fq4.triple Sm9.Fq4.triple
theorem Fq4_unitary_inverse : @Sm9.Gen.Fq4.unitary_inverse = @Sm9.Fq4.unitary_inverse := by equiv_tac Sm9.Gen.Fq4.unitary_inverse Sm9.Fq4.unitary_inverse
theorem Fq4_zero : @Sm9.Gen.Fq4.zero = @Sm9.Fq4.zero := by equiv_tac Sm9.Gen.Fq4.zero Sm9.Fq4.zero
set_option maxHeartbeats 1000000 in
theorem G1_add : @Sm9.Gen.G1.add = @Sm9.G.add Fq _ := by 
  funext a b
  unfold Sm9.Gen.G1.add Sm9.G.add
  cases ha : a.is_zero
  · cases hb : b.is_zero
    · simp only [Bool.false_eq_true, if_false]
      have e1 : FieldElement.beq a.z 1 = decide (a.z = (1 : Fq)) := rfl
      have e2 : FieldElement.beq b.z 1 = decide (b.z = (1 : Fq)) := rfl
      rw [e1, e2]
      cases h1 : decide (a.z = (1 : Fq)) <;> cases h2 : decide (b.z = (1 : Fq))
      · first
        | (bounded 200 => (
            simp only [G.add_ff, FieldElement.is_zero, FieldElement.squared, FieldElement.double]
            repeat' split
            all_goals (try simp_all)
            all_goals (try simp only [Fq2.squared_eq_mul, Fq2.double_eq, Fq.squared_eq_mul', Fq.double_eq', G.mk.injEq])
            all_goals (try (repeat' apply And.intro))
            all_goals (try trivial)
            all_goals (try ring1)
            done))
        | (simp only [G.add_ff]; g_close)
      · first
        | (bounded 200 => (
            simp only [G.add_ft, FieldElement.is_zero, FieldElement.squared, FieldElement.double]
            repeat' split
            all_goals (try simp_all)
            all_goals (try simp only [Fq2.squared_eq_mul, Fq2.double_eq, Fq.squared_eq_mul', Fq.double_eq', G.mk.injEq])
            all_goals (try (repeat' apply And.intro))
            all_goals (try trivial)
            all_goals (try ring1)
            done))
        | (simp only [G.add_ft]; g_close)
      · -- (true, false): `other + self` re-enters `add` and takes the (false, true) arm
        show G.add b a = G.add_ft b a
        unfold G.add
        have e3 : FieldElement.beq b.z 1 = decide (b.z = (1 : Fq)) := rfl
        simp only [hb, ha, Bool.false_eq_true, if_false, e1, e3, h1, h2]
      · first
        | (bounded 200 => (
            simp only [G.add_tt, FieldElement.is_zero, FieldElement.squared, FieldElement.double]
            repeat' split
            all_goals (try simp_all)
            all_goals (try simp only [Fq2.squared_eq_mul, Fq2.double_eq, Fq.squared_eq_mul', Fq.double_eq', G.mk.injEq])
            all_goals (try (repeat' apply And.intro))
            all_goals (try trivial)
            all_goals (try ring1)
            done))
        | (simp only [G.add_tt]; g_close)
    · simp
  · simp
theorem G1_clone : @Sm9.Gen.G1.clone = (fun (p : G Fq) => p) := by equiv_rfl
set_option maxHeartbeats 1000000 in
theorem G1_double : @Sm9.Gen.G1.double = @Sm9.G.double Fq _ := by g_tac Sm9.Gen.G1.double Sm9.G.double
set_option maxHeartbeats 1000000 in
theorem G1_eq : @Sm9.Gen.G1.eq = @Sm9.G.eq Fq _ := by g_tac Sm9.Gen.G1.eq Sm9.G.eq
set_option maxHeartbeats 1000000 in
theorem G1_is_zero : @Sm9.Gen.G1.is_zero = @Sm9.G.is_zero Fq _ := by g_tac Sm9.Gen.G1.is_zero Sm9.G.is_zero
set_option maxHeartbeats 1000000 in
theorem G1_mul : @Sm9.Gen.G1.mul = @Sm9.G.mul Fq _ := by g_tac Sm9.Gen.G1.mul Sm9.G.mul
set_option maxHeartbeats 1000000 in
theorem G1_neg : @Sm9.Gen.G1.neg = @Sm9.G.neg Fq _ := by g_tac Sm9.Gen.G1.neg Sm9.G.neg
theorem G1_new : @Sm9.Gen.G1.new = @Sm9.G.new Fq := by equiv_unf Sm9.Gen.G1.new Sm9.G.new
theorem G1_one : @Sm9.Gen.G1.one = @Sm9.G.one Fq _ _ := by equiv_unf Sm9.Gen.G1.one Sm9.G.one
theorem G1_random : @Sm9.Gen.G1.random = @Sm9.G.randomS Fq _ _ := by equiv_unf Sm9.Gen.G1.random Sm9.G.randomS
set_option maxHeartbeats 1000000 in
theorem G1_sub : @Sm9.Gen.G1.sub = @Sm9.G.sub Fq _ := by g_tac Sm9.Gen.G1.sub Sm9.G.sub
set_option maxHeartbeats 1000000 in
theorem G1_to_affine : @Sm9.Gen.G1.to_affine = @Sm9.G.to_affine Fq _ := by to_affine_equiv Sm9.Gen.G1.to_affine
theorem G1_x : @Sm9.Gen.G1.x = (fun (p : G Fq) => p.x) := by equiv_rfl
theorem G1_x_mut : @Sm9.Gen.G1.x_mut = (fun (p : G Fq) => (p, p.x)) := by equiv_rfl
theorem G1_y : @Sm9.Gen.G1.y = (fun (p : G Fq) => p.y) := by equiv_rfl
theorem G1_y_mut : @Sm9.Gen.G1.y_mut = (fun (p : G Fq) => (p, p.y)) := by equiv_rfl
theorem G1_z : @Sm9.Gen.G1.z = (fun (p : G Fq) => p.z) := by equiv_rfl
theorem G1_z_mut : @Sm9.Gen.G1.z_mut = (fun (p : G Fq) => (p, p.z)) := by equiv_rfl
set_option maxHeartbeats 1000000 in
theorem G1_zero : @Sm9.Gen.G1.zero = @Sm9.G.zero Fq _ := by g_tac Sm9.Gen.G1.zero Sm9.G.zero
theorem G1AddAssignRef_add_assign : @Sm9.Gen.G1AddAssignRef.add_assign = @Sm9.G.add Fq _ := by equiv_unf Sm9.Gen.G1AddAssignRef.add_assign Sm9.G.add
theorem G1AddAssignVal_add_assign : @Sm9.Gen.G1AddAssignVal.add_assign = @Sm9.G.add Fq _ := by equiv_unf Sm9.Gen.G1AddAssignVal.add_assign Sm9.G.add
theorem G1AddRefVal_add : @Sm9.Gen.G1AddRefVal.add = @Sm9.G.add Fq _ := by equiv_unf Sm9.Gen.G1AddRefVal.add Sm9.G.add
theorem G1AddValRef_add : @Sm9.Gen.G1AddValRef.add = @Sm9.G.add Fq _ := by equiv_unf Sm9.Gen.G1AddValRef.add Sm9.G.add
theorem G1Params_check_order : @Sm9.Gen.G1Params.check_order = GroupParams.check_order Fq := by equiv_rfl
theorem G1Params_coeff_b : @Sm9.Gen.G1Params.coeff_b = (GroupParams.coeff_b : Fq) := by equiv_rfl
theorem G1Params_coeff_b_value : Sm9.Gen.G1Params.coeff_b = Sm9.Fq.ofNat 5 := by first | rfl | decide +kernel
theorem G1Params_name : @Sm9.Gen.G1Params.name = "G1" := by equiv_rfl
theorem G1Params_one : @Sm9.Gen.G1Params.one = @Sm9.G.one Fq _ _ := by equiv_unf Sm9.Gen.G1Params.one Sm9.G.one
theorem G1Params_one_unwrap_ok : Consts.SM9_P1X < Consts.FQ ∧ Consts.SM9_P1Y < Consts.FQ := by decide
set_option maxHeartbeats 1000000 in
theorem G2_add : @Sm9.Gen.G2.add = @Sm9.G.add Fq2 _ := by 
  funext a b
  unfold Sm9.Gen.G2.add Sm9.G.add
  cases ha : a.is_zero
  · cases hb : b.is_zero
    · simp only [Bool.false_eq_true, if_false]
      have e1 : FieldElement.beq a.z 1 = decide (a.z = Sm9.Fq2.one) := rfl
      have e2 : FieldElement.beq b.z 1 = decide (b.z = Sm9.Fq2.one) := rfl
      rw [e1, e2]
      cases h1 : decide (a.z = Sm9.Fq2.one) <;> cases h2 : decide (b.z = Sm9.Fq2.one)
      · first
        | (bounded 200 => (
            simp only [G.add_ff, FieldElement.is_zero, FieldElement.squared, FieldElement.double]
            repeat' split
            all_goals (try simp_all)
            all_goals (try simp only [Fq2.squared_eq_mul, Fq2.double_eq, Fq.squared_eq_mul', Fq.double_eq', G.mk.injEq])
            all_goals (try (repeat' apply And.intro))
            all_goals (try trivial)
            all_goals (try ring1)
            done))
        | (simp only [G.add_ff]; g_close)
      · first
        | (bounded 200 => (
            simp only [G.add_ft, FieldElement.is_zero, FieldElement.squared, FieldElement.double]
            repeat' split
            all_goals (try simp_all)
            all_goals (try simp only [Fq2.squared_eq_mul, Fq2.double_eq, Fq.squared_eq_mul', Fq.double_eq', G.mk.injEq])
            all_goals (try (repeat' apply And.intro))
            all_goals (try trivial)
            all_goals (try ring1)
            done))
        | (simp only [G.add_ft]; g_close)
      · -- (true, false): `other + self` re-enters `add` and takes the (false, true) arm
        show G.add b a = G.add_ft b a
        unfold G.add
        have e3 : FieldElement.beq b.z 1 = decide (b.z = Sm9.Fq2.one) := rfl
        simp only [hb, ha, Bool.false_eq_true, if_false, e1, e3, h1, h2]
      · first
        | (bounded 200 => (
            simp only [G.add_tt, FieldElement.is_zero, FieldElement.squared, FieldElement.double]
            repeat' split
            all_goals (try simp_all)
            all_goals (try simp only [Fq2.squared_eq_mul, Fq2.double_eq, Fq.squared_eq_mul', Fq.double_eq', G.mk.injEq])
            all_goals (try (repeat' apply And.intro))
            all_goals (try trivial)
            all_goals (try ring1)
            done))
        | (simp only [G.add_tt]; g_close)
    · simp
  · simp
theorem G2_clone : @Sm9.Gen.G2.clone = (fun (p : G Fq2) => p) := by equiv_rfl
set_option maxHeartbeats 1000000 in
theorem G2_double : @Sm9.Gen.G2.double = @Sm9.G.double Fq2 _ := by g_tac Sm9.Gen.G2.double Sm9.G.double
set_option maxHeartbeats 1000000 in
theorem G2_eq : @Sm9.Gen.G2.eq = @Sm9.G.eq Fq2 _ := by g_tac Sm9.Gen.G2.eq Sm9.G.eq
set_option maxHeartbeats 1000000 in
theorem G2_is_zero : @Sm9.Gen.G2.is_zero = @Sm9.G.is_zero Fq2 _ := by g_tac Sm9.Gen.G2.is_zero Sm9.G.is_zero
set_option maxHeartbeats 1000000 in
theorem G2_mul : @Sm9.Gen.G2.mul = @Sm9.G.mul Fq2 _ := by g_tac Sm9.Gen.G2.mul Sm9.G.mul
set_option maxHeartbeats 1000000 in
theorem G2_neg : @Sm9.Gen.G2.neg = @Sm9.G.neg Fq2 _ := by g_tac Sm9.Gen.G2.neg Sm9.G.neg
theorem G2_new : @Sm9.Gen.G2.new = @Sm9.G.new Fq2 := by equiv_unf Sm9.Gen.G2.new Sm9.G.new
theorem G2_one : @Sm9.Gen.G2.one = @Sm9.G.one Fq2 _ _ := by equiv_unf Sm9.Gen.G2.one Sm9.G.one
theorem G2_random : @Sm9.Gen.G2.random = @Sm9.G.randomS Fq2 _ _ := by equiv_unf Sm9.Gen.G2.random Sm9.G.randomS
set_option maxHeartbeats 1000000 in
theorem G2_sub : @Sm9.Gen.G2.sub = @Sm9.G.sub Fq2 _ := by g_tac Sm9.Gen.G2.sub Sm9.G.sub
set_option maxHeartbeats 1000000 in
theorem G2_to_affine : @Sm9.Gen.G2.to_affine = @Sm9.G.to_affine Fq2 _ := by to_affine_equiv Sm9.Gen.G2.to_affine
theorem G2_x : @Sm9.Gen.G2.x = (fun (p : G Fq2) => p.x) := by equiv_rfl
theorem G2_x_mut : @Sm9.Gen.G2.x_mut = (fun (p : G Fq2) => (p, p.x)) := by equiv_rfl
theorem G2_y : @Sm9.Gen.G2.y = (fun (p : G Fq2) => p.y) := by equiv_rfl
theorem G2_y_mut : @Sm9.Gen.G2.y_mut = (fun (p : G Fq2) => (p, p.y)) := by equiv_rfl
theorem G2_z : @Sm9.Gen.G2.z = (fun (p : G Fq2) => p.z) := by equiv_rfl
theorem G2_z_mut : @Sm9.Gen.G2.z_mut = (fun (p : G Fq2) => (p, p.z)) := by equiv_rfl
set_option maxHeartbeats 1000000 in
theorem G2_zero : @Sm9.Gen.G2.zero = @Sm9.G.zero Fq2 _ := by g_tac Sm9.Gen.G2.zero Sm9.G.zero
theorem G2AddAssignRef_add_assign : @Sm9.Gen.G2AddAssignRef.add_assign = @Sm9.G.add Fq2 _ := by equiv_unf Sm9.Gen.G2AddAssignRef.add_assign Sm9.G.add
theorem G2AddAssignVal_add_assign : @Sm9.Gen.G2AddAssignVal.add_assign = @Sm9.G.add Fq2 _ := by equiv_unf Sm9.Gen.G2AddAssignVal.add_assign Sm9.G.add
theorem G2AddRefVal_add : @Sm9.Gen.G2AddRefVal.add = @Sm9.G.add Fq2 _ := by equiv_unf Sm9.Gen.G2AddRefVal.add Sm9.G.add
theorem G2AddValRef_add : @Sm9.Gen.G2AddValRef.add = @Sm9.G.add Fq2 _ := by equiv_unf Sm9.Gen.G2AddValRef.add Sm9.G.add
theorem G2Params_check_order : @Sm9.Gen.G2Params.check_order = GroupParams.check_order Fq2 := by equiv_rfl
theorem G2Params_coeff_b : @Sm9.Gen.G2Params.coeff_b = (GroupParams.coeff_b : Fq2) := by equiv_rfl
theorem G2Params_coeff_b_value : Sm9.Gen.G2Params.coeff_b = ({ c0 := 0, c1 := Sm9.Fq.ofNat 5 } : Fq2) := by first | rfl | decide +kernel
theorem G2Params_name : @Sm9.Gen.G2Params.name = "G2" := by equiv_rfl
theorem G2Params_one : @Sm9.Gen.G2Params.one = @Sm9.G.one Fq2 _ _ := by equiv_unf Sm9.Gen.G2Params.one Sm9.G.one
theorem G2Params_one_unwrap_ok : Consts.SM9_P2X0 < Consts.FQ ∧ Consts.SM9_P2X1 < Consts.FQ ∧ Consts.SM9_P2Y0 < Consts.FQ ∧ Consts.SM9_P2Y1 < Consts.FQ := by decide
theorem G2Prepared_from : @Sm9.Gen.G2Prepared.from_ = @Sm9.G2Prepared.from_ := by 
  funext g2
  unfold Sm9.Gen.G2Prepared.from_ Sm9.G2Prepared.from_ G2Prepared.prepLoop loopIdx
  cases hz : g2.is_zero
  · simp only [Bool.false_eq_true, if_false, bits_eq]
    generalize (List.range loopBits).reverse = idxs
    rw [foldl_swap (G := G2Prepared.prepStep g2) (a := g2) (b := [])]
    · generalize List.foldl (G2Prepared.prepStep g2) (g2, []) idxs = st
      obtain ⟨p, cs⟩ := st
      unfold G2Prepared.prepTail
      simp only [pi1, Prod.swap]
      generalize G2m.q_power_frobenius g2 _ = r1
      cases r1 with
      | none => rfl
      | some ka =>
        simp only [Outcome.unwrap, bind, Outcome.bind]
        generalize G2m.q_power_frobenius ka _ = r2
        cases r2 <;> rfl
    · intro p cs i
      simp only [G2Prepared.prepStep, Prod.swap]
      split <;> rfl
  · simp only [↓reduceIte]; rfl
theorem G2Prepared_get_fq12 (s : G2Prepared) : @Sm9.Gen.G2Prepared.get_fq12 s = @Sm9.G2Prepared.get_fq12 := by equiv_rfl
theorem G2Prepared_miller_loop : @Sm9.Gen.G2Prepared.miller_loop = @Sm9.G2Prepared.miller_loop := by 
  funext self g1
  unfold Sm9.Gen.G2Prepared.miller_loop Sm9.G2Prepared.miller_loop loopIdx
  try simp only [Bool.or_comm self.coeffs.isEmpty]
  cases hc : (g1.is_zero || self.coeffs.isEmpty)
  · simp only [Bool.false_eq_true, if_false, bits_eq]
    generalize (List.range loopBits).reverse = idxs
    rfl
  · simp only [↓reduceIte]; rfl
theorem G2m_eval_g_line : @Sm9.Gen.G2m.eval_g_line = @Sm9.G2m.eval_g_line := by equiv_unf Sm9.Gen.G2m.eval_g_line Sm9.G2m.eval_g_line
theorem G2m_eval_g_tangent : @Sm9.Gen.G2m.eval_g_tangent = @Sm9.G2m.eval_g_tangent := by equiv_unf Sm9.Gen.G2m.eval_g_tangent Sm9.G2m.eval_g_tangent
theorem G2m_g_line : @Sm9.Gen.G2m.g_line = @Sm9.G2m.g_line := by equiv_unf Sm9.Gen.G2m.g_line Sm9.G2m.g_line
theorem G2m_g_tangent : @Sm9.Gen.G2m.g_tangent = @Sm9.G2m.g_tangent := by equiv_unf Sm9.Gen.G2m.g_tangent Sm9.G2m.g_tangent
theorem G2m_miller_loop : @Sm9.Gen.G2m.miller_loop = @Sm9.G2m.miller_loop := by equiv_unf Sm9.Gen.G2m.miller_loop Sm9.G2m.miller_loop
theorem G2m_point_pi1 : @Sm9.Gen.G2m.point_pi1 = @Sm9.G2m.point_pi1 := by equiv_unf Sm9.Gen.G2m.point_pi1 Sm9.G2m.point_pi1
theorem G2m_point_pi2 : @Sm9.Gen.G2m.point_pi2 = @Sm9.G2m.point_pi2 := by equiv_unf Sm9.Gen.G2m.point_pi2 Sm9.G2m.point_pi2
theorem G2m_q_power_frobenius : @Sm9.Gen.G2m.q_power_frobenius = @Sm9.G2m.q_power_frobenius := by equiv_unf Sm9.Gen.G2m.q_power_frobenius Sm9.G2m.q_power_frobenius
theorem Lib_fast_pairing : @Sm9.Gen.Lib.fast_pairing = @Sm9.Api.fast_pairing := by equiv_unf Sm9.Gen.Lib.fast_pairing Sm9.Api.fast_pairing
theorem Lib_pairing : @Sm9.Gen.Lib.pairing = @Sm9.Api.pairing := by equiv_unf Sm9.Gen.Lib.pairing Sm9.Api.pairing
theorem LibAffineG1_from_jacobian : @Sm9.Gen.LibAffineG1.from_jacobian = @Sm9.G.to_affine Fq _ := by equiv_unf Sm9.Gen.LibAffineG1.from_jacobian Sm9.G.to_affine
theorem LibAffineG1_new : @Sm9.Gen.LibAffineG1.new = @Sm9.AffineG.new Fq _ _ := by equiv_unf Sm9.Gen.LibAffineG1.new Sm9.AffineG.new
theorem LibAffineG1_set_x : @Sm9.Gen.LibAffineG1.set_x = (fun (a : AffineG Fq) (x : Fq) => { a with x := x }) := by equiv_rfl
theorem LibAffineG1_set_y : @Sm9.Gen.LibAffineG1.set_y = (fun (a : AffineG Fq) (y : Fq) => { a with y := y }) := by equiv_rfl
theorem LibAffineG1_x : @Sm9.Gen.LibAffineG1.x = (fun (a : AffineG Fq) => a.x) := by equiv_rfl
theorem LibAffineG1_y : @Sm9.Gen.LibAffineG1.y = (fun (a : AffineG Fq) => a.y) := by equiv_rfl
theorem LibAffineG2_from_jacobian : @Sm9.Gen.LibAffineG2.from_jacobian = @Sm9.G.to_affine Fq2 _ := by equiv_unf Sm9.Gen.LibAffineG2.from_jacobian Sm9.G.to_affine
theorem LibAffineG2_new : @Sm9.Gen.LibAffineG2.new = @Sm9.AffineG.new Fq2 _ _ := by equiv_unf Sm9.Gen.LibAffineG2.new Sm9.AffineG.new
theorem LibAffineG2_set_x : @Sm9.Gen.LibAffineG2.set_x = (fun (a : AffineG Fq2) (x : Fq2) => { a with x := x }) := by equiv_rfl
theorem LibAffineG2_set_y : @Sm9.Gen.LibAffineG2.set_y = (fun (a : AffineG Fq2) (y : Fq2) => { a with y := y }) := by equiv_rfl
theorem LibAffineG2_x : @Sm9.Gen.LibAffineG2.x = (fun (a : AffineG Fq2) => a.x) := by equiv_rfl
theorem LibAffineG2_y : @Sm9.Gen.LibAffineG2.y = (fun (a : AffineG Fq2) => a.y) := by equiv_rfl
-- LibCurveError.from: skipped: the model's CurveError has no variant for `CurveError::Field` (it keeps only InvalidEncoding / NotMember)
theorem LibFq2_add_inplace : @Sm9.Gen.LibFq2.add_inplace = (fun a b : Fq2 => a + b) := by equiv_ring Sm9.Gen.LibFq2.add_inplace
theorem LibFq2_from : @Sm9.Gen.LibFq2.from_ = @Sm9.Api.fq2ToSlice := by equiv_unf Sm9.Gen.LibFq2.from_ Sm9.Api.fq2ToSlice
theorem LibFq2_from_slice : @Sm9.Gen.LibFq2.from_slice = @Sm9.Api.fq2FromSlice := by funext hex; exact fq2FromSliceE_toOption hex
theorem LibFq2_imaginary : @Sm9.Gen.LibFq2.imaginary = @Sm9.Fq2.imaginary := by equiv_unf Sm9.Gen.LibFq2.imaginary Sm9.Fq2.imaginary
theorem LibFq2_is_even : @Sm9.Gen.LibFq2.is_even = @Sm9.Api.fq2IsEven := by equiv_unf Sm9.Gen.LibFq2.is_even Sm9.Api.fq2IsEven
theorem LibFq2_is_zero : @Sm9.Gen.LibFq2.is_zero = @Sm9.Fq2.is_zero := by equiv_unf Sm9.Gen.LibFq2.is_zero Sm9.Fq2.is_zero
theorem LibFq2_mul_inplace : @Sm9.Gen.LibFq2.mul_inplace = (fun a b : Fq2 => a * b) := by equiv_ring Sm9.Gen.LibFq2.mul_inplace
theorem LibFq2_neg_inplace : @Sm9.Gen.LibFq2.neg_inplace = (fun a : Fq2 => -a) := by equiv_ring Sm9.Gen.LibFq2.neg_inplace
theorem LibFq2_new : @Sm9.Gen.LibFq2.new = @Sm9.Fq2.new := by equiv_unf Sm9.Gen.LibFq2.new Sm9.Fq2.new
theorem LibFq2_one : @Sm9.Gen.LibFq2.one = @Sm9.Fq2.one := by equiv_unf Sm9.Gen.LibFq2.one Sm9.Fq2.one
theorem LibFq2_real : @Sm9.Gen.LibFq2.real = @Sm9.Fq2.real := by equiv_unf Sm9.Gen.LibFq2.real Sm9.Fq2.real
theorem LibFq2_sqrt : @Sm9.Gen.LibFq2.sqrt = @Sm9.Fq2.sqrt := by equiv_unf Sm9.Gen.LibFq2.sqrt Sm9.Fq2.sqrt
theorem LibFq2_sub_inplace : @Sm9.Gen.LibFq2.sub_inplace = (fun a b : Fq2 => a - b) := by equiv_ring Sm9.Gen.LibFq2.sub_inplace
theorem LibFq2_to_slice : @Sm9.Gen.LibFq2.to_slice = @Sm9.Api.fq2ToSlice := by equiv_unf Sm9.Gen.LibFq2.to_slice Sm9.Api.fq2ToSlice
theorem LibFq2_try_from : @Sm9.Gen.LibFq2.try_from = (fun hex => match Sm9.Api.fq2FromSlice hex with | some v => Except.ok v | none => Except.error FieldError.InvalidSliceLength) := by equiv_rfl
theorem LibFq2_zero : @Sm9.Gen.LibFq2.zero = @Sm9.Fq2.zero := by equiv_unf Sm9.Gen.LibFq2.zero Sm9.Fq2.zero
theorem LibFrG1_mul : @Sm9.Gen.LibFrG1.mul = (fun (s : Fr) (p : G1) => Sm9.G.mul p s) := by equiv_rfl
theorem LibFrG2_mul : @Sm9.Gen.LibFrG2.mul = (fun (s : Fr) (p : G2) => Sm9.G.mul p s) := by equiv_rfl
theorem LibG1_add : @Sm9.Gen.LibG1.add = @Sm9.G.add Fq _ := by equiv_unf Sm9.Gen.LibG1.add Sm9.G.add
theorem LibG1_b : @Sm9.Gen.LibG1.b = @Sm9.Api.g1B := by equiv_unf Sm9.Gen.LibG1.b Sm9.Api.g1B
theorem LibG1_from : @Sm9.Gen.LibG1.from_ = @Sm9.AffineG.to_jacobian Fq _ := by equiv_unf Sm9.Gen.LibG1.from_ Sm9.AffineG.to_jacobian
theorem LibG1_from_compressed : @Sm9.Gen.LibG1.from_compressed = @Sm9.Api.g1FromCompressed := by 
  funext bs
  unfold Sm9.Gen.LibG1.from_compressed Sm9.Api.g1FromCompressed
  simp only [liftNew_eq, and_one_eq, getD0, not_decide_eq_bne, decide_eq_beq', bool_bne_comm, bool_beq_comm]
  first
  | grind
  | lib_dtree
theorem LibG1_from_slice : @Sm9.Gen.LibG1.from_slice = @Sm9.Api.g1FromSlice := by 
  funext bs
  unfold Sm9.Gen.LibG1.from_slice Sm9.Api.g1FromSlice
  simp only [liftNew_eq, getD0]
  first
  | grind
  | (by_cases h : bs.length = 64
     · simp only [h, decide_true, Bool.not_true, Bool.false_eq_true, if_false, ne_eq, not_true_eq_false]
       cases Api.fqFromSliceStrict (bs.take 32) <;> cases Api.fqFromSliceStrict (bs.drop 32) <;> rfl
     · simp [h])
  | lib_dtree
theorem LibG1_from_uncompressed : @Sm9.Gen.LibG1.from_uncompressed = @Sm9.Api.g1FromUncompressed := by 
  funext bs
  unfold Sm9.Gen.LibG1.from_uncompressed Sm9.Api.g1FromUncompressed
  simp only [getD0]
  first
  | (by_cases h : bs.length = 65
     · have := head_ne_iff bs 4 (by omega)
       grind
     · grind)
  | lib_dtree
theorem LibG1_is_zero : @Sm9.Gen.LibG1.is_zero = @Sm9.G.is_zero Fq _ := by equiv_unf Sm9.Gen.LibG1.is_zero Sm9.G.is_zero
theorem LibG1_mul : @Sm9.Gen.LibG1.mul = @Sm9.G.mul Fq _ := by equiv_unf Sm9.Gen.LibG1.mul Sm9.G.mul
theorem LibG1_neg : @Sm9.Gen.LibG1.neg = @Sm9.G.neg Fq _ := by equiv_unf Sm9.Gen.LibG1.neg Sm9.G.neg
theorem LibG1_new : @Sm9.Gen.LibG1.new = @Sm9.G.new Fq := by equiv_unf Sm9.Gen.LibG1.new Sm9.G.new
theorem LibG1_normalize : @Sm9.Gen.LibG1.normalize = @Sm9.Api.normalize Fq _ := by 
  funext p; unfold Sm9.Gen.LibG1.normalize Api.normalize; cases p.to_affine <;> rfl
theorem LibG1_one : @Sm9.Gen.LibG1.one = @Sm9.G.one Fq _ _ := by equiv_unf Sm9.Gen.LibG1.one Sm9.G.one
theorem LibG1_set_x : @Sm9.Gen.LibG1.set_x = (fun (p : G Fq) (x : Fq) => { p with x := x }) := by equiv_rfl
theorem LibG1_set_y : @Sm9.Gen.LibG1.set_y = (fun (p : G Fq) (y : Fq) => { p with y := y }) := by equiv_rfl
theorem LibG1_set_z : @Sm9.Gen.LibG1.set_z = (fun (p : G Fq) (z : Fq) => { p with z := z }) := by equiv_rfl
theorem LibG1_sub : @Sm9.Gen.LibG1.sub = @Sm9.G.sub Fq _ := by equiv_unf Sm9.Gen.LibG1.sub Sm9.G.sub
theorem LibG1_to_compressed : @Sm9.Gen.LibG1.to_compressed = @Sm9.Api.g1ToCompressed := by 
  funext p
  unfold Sm9.Gen.LibG1.to_compressed Sm9.Api.g1ToCompressed
  cases p.to_affine with
  | none => rfl
  | some a =>
    simp only [Outcome.unwrap, bind, Outcome.bind]
    first
    | (rw [sliceCopy_tail _ _ 1 (by cases a.y.is_even <;> simp [Api.fqToSlice_length])]
       cases a.y.is_even <;> rfl)
    | (cases a.y.is_even <;> simp [sliceCopy, Api.fqToSlice_length, Outcome.bind])
theorem LibG1_to_slice : @Sm9.Gen.LibG1.to_slice = @Sm9.Api.g1ToSlice := by 
  funext p
  unfold Sm9.Gen.LibG1.to_slice Sm9.Api.g1ToSlice
  cases p.to_affine with
  | none => rfl
  | some a =>
    first
    | (simp only [Outcome.unwrap_some, Outcome.bind_ok]
       exact sliceCopy_two _ _ _ 32 (List.length_replicate ..) (Api.fqToSlice_length _) (Api.fqToSlice_length _))
    -- any other order / spelling of the copies: evaluate every checked splice (the lengths are known) and compare the byte lists
    | simp [Outcome.unwrap, bind, sliceCopy, Api.fqToSlice_length, Outcome.bind]
theorem LibG1_to_uncompressed : @Sm9.Gen.LibG1.to_uncompressed = @Sm9.Api.g1ToUncompressed := by 
  funext p
  unfold Sm9.Gen.LibG1.to_uncompressed Sm9.Api.g1ToUncompressed
  cases h : Api.g1ToSlice p with
  | panic => simp only [bind, Outcome.bind]
  | ok s =>
    have hl : s.length = 64 := by
      unfold Api.g1ToSlice at h
      cases hp : p.to_affine with
      | none => rw [hp] at h; cases h
      | some a => rw [hp] at h; cases h; simp [Api.fqToSlice_length]
    simp only [bind, Outcome.bind, pure]
    rw [sliceCopy_tail _ _ 1 (by simp [hl])]
    rfl
theorem LibG1_x : @Sm9.Gen.LibG1.x = (fun (p : G Fq) => p.x) := by equiv_rfl
theorem LibG1_y : @Sm9.Gen.LibG1.y = (fun (p : G Fq) => p.y) := by equiv_rfl
theorem LibG1_z : @Sm9.Gen.LibG1.z = (fun (p : G Fq) => p.z) := by equiv_rfl
theorem LibG1_zero : @Sm9.Gen.LibG1.zero = @Sm9.G.zero Fq _ := by equiv_unf Sm9.Gen.LibG1.zero Sm9.G.zero
theorem LibG2_add : @Sm9.Gen.LibG2.add = @Sm9.G.add Fq2 _ := by equiv_unf Sm9.Gen.LibG2.add Sm9.G.add
theorem LibG2_b : @Sm9.Gen.LibG2.b = @Sm9.Api.g2B := by equiv_unf Sm9.Gen.LibG2.b Sm9.Api.g2B
theorem LibG2_from : @Sm9.Gen.LibG2.from_ = @Sm9.AffineG.to_jacobian Fq2 _ := by equiv_unf Sm9.Gen.LibG2.from_ Sm9.AffineG.to_jacobian
theorem LibG2_from_compressed : @Sm9.Gen.LibG2.from_compressed = @Sm9.Api.g2FromCompressed := by 
  funext bs
  unfold Sm9.Gen.LibG2.from_compressed Sm9.Api.g2FromCompressed
  simp only [liftNew_eq, and_one_eq, getD0, not_decide_eq_bne, decide_eq_beq', bool_bne_comm, bool_beq_comm]
  first
  | grind
  | lib_dtree
theorem LibG2_from_slice : @Sm9.Gen.LibG2.from_slice = @Sm9.Api.g2FromSlice := by 
  funext bs
  unfold Sm9.Gen.LibG2.from_slice Sm9.Api.g2FromSlice
  simp only [liftNew_eq, getD0]
  first
  | grind
  | (by_cases h : bs.length = 128
     · simp only [h, decide_true, Bool.not_true, Bool.false_eq_true, if_false, ne_eq, not_true_eq_false]
       cases Api.fq2FromSlice (bs.take 64) <;> cases Api.fq2FromSlice (bs.drop 64) <;> rfl
     · simp [h])
  | lib_dtree
theorem LibG2_from_uncompressed : @Sm9.Gen.LibG2.from_uncompressed = @Sm9.Api.g2FromUncompressed := by 
  funext bs
  unfold Sm9.Gen.LibG2.from_uncompressed Sm9.Api.g2FromUncompressed
  simp only [getD0]
  first
  | (by_cases h : bs.length = 129
     · have := head_ne_iff bs 4 (by omega)
       grind
     · grind)
  | lib_dtree
theorem LibG2_is_zero : @Sm9.Gen.LibG2.is_zero = @Sm9.G.is_zero Fq2 _ := by equiv_unf Sm9.Gen.LibG2.is_zero Sm9.G.is_zero
theorem LibG2_mul : @Sm9.Gen.LibG2.mul = @Sm9.G.mul Fq2 _ := by equiv_unf Sm9.Gen.LibG2.mul Sm9.G.mul
theorem LibG2_neg : @Sm9.Gen.LibG2.neg = @Sm9.G.neg Fq2 _ := by equiv_unf Sm9.Gen.LibG2.neg Sm9.G.neg
theorem LibG2_new : @Sm9.Gen.LibG2.new = @Sm9.G.new Fq2 := by equiv_unf Sm9.Gen.LibG2.new Sm9.G.new
theorem LibG2_normalize : @Sm9.Gen.LibG2.normalize = @Sm9.Api.normalize Fq2 _ := by 
  funext p; unfold Sm9.Gen.LibG2.normalize Api.normalize; cases p.to_affine <;> rfl
theorem LibG2_one : @Sm9.Gen.LibG2.one = @Sm9.G.one Fq2 _ _ := by equiv_unf Sm9.Gen.LibG2.one Sm9.G.one
theorem LibG2_set_x : @Sm9.Gen.LibG2.set_x = (fun (p : G Fq2) (x : Fq2) => { p with x := x }) := by equiv_rfl
theorem LibG2_set_y : @Sm9.Gen.LibG2.set_y = (fun (p : G Fq2) (y : Fq2) => { p with y := y }) := by equiv_rfl
theorem LibG2_set_z : @Sm9.Gen.LibG2.set_z = (fun (p : G Fq2) (z : Fq2) => { p with z := z }) := by equiv_rfl
theorem LibG2_sub : @Sm9.Gen.LibG2.sub = @Sm9.G.sub Fq2 _ := by equiv_unf Sm9.Gen.LibG2.sub Sm9.G.sub
theorem LibG2_to_compressed : @Sm9.Gen.LibG2.to_compressed = @Sm9.Api.g2ToCompressed := by 
  funext p
  unfold Sm9.Gen.LibG2.to_compressed Sm9.Api.g2ToCompressed
  cases p.to_affine with
  | none => rfl
  | some a =>
    simp only [Outcome.unwrap, bind, Outcome.bind]
    first
    | (rw [sliceCopy_tail _ _ 1 (by cases Api.fq2IsEven a.y <;> simp [Api.fq2ToSlice_length])]
       cases Api.fq2IsEven a.y <;> rfl)
    | (cases Api.fq2IsEven a.y <;> simp [sliceCopy, Api.fq2ToSlice_length, Outcome.bind])
theorem LibG2_to_slice : @Sm9.Gen.LibG2.to_slice = @Sm9.Api.g2ToSlice := by 
  funext p
  unfold Sm9.Gen.LibG2.to_slice Sm9.Api.g2ToSlice
  cases p.to_affine with
  | none => rfl
  | some a =>
    first
    | (simp only [Outcome.unwrap_some, Outcome.bind_ok]
       exact sliceCopy_two _ _ _ 64 (List.length_replicate ..) (Api.fq2ToSlice_length _) (Api.fq2ToSlice_length _))
    -- any other order / spelling of the copies: evaluate every checked splice (the lengths are known) and compare the byte lists
    | simp [Outcome.unwrap, bind, sliceCopy, Api.fq2ToSlice_length, Outcome.bind]
theorem LibG2_to_uncompressed : @Sm9.Gen.LibG2.to_uncompressed = @Sm9.Api.g2ToUncompressed := by 
  funext p
  unfold Sm9.Gen.LibG2.to_uncompressed Sm9.Api.g2ToUncompressed
  cases h : Api.g2ToSlice p with
  | panic => simp only [bind, Outcome.bind]
  | ok s =>
    have hl : s.length = 128 := by
      unfold Api.g2ToSlice at h
      cases hp : p.to_affine with
      | none => rw [hp] at h; cases h
      | some a => rw [hp] at h; cases h; simp [Api.fq2ToSlice_length]
    simp only [bind, Outcome.bind, pure]
    rw [sliceCopy_tail _ _ 1 (by simp [hl])]
    rfl
theorem LibG2_x : @Sm9.Gen.LibG2.x = (fun (p : G Fq2) => p.x) := by equiv_rfl
theorem LibG2_y : @Sm9.Gen.LibG2.y = (fun (p : G Fq2) => p.y) := by equiv_rfl
theorem LibG2_z : @Sm9.Gen.LibG2.z = (fun (p : G Fq2) => p.z) := by equiv_rfl
theorem LibG2_zero : @Sm9.Gen.LibG2.zero = @Sm9.G.zero Fq2 _ := by equiv_unf Sm9.Gen.LibG2.zero Sm9.G.zero
theorem LibG2Prepared_from : @Sm9.Gen.LibG2Prepared.from_ = @Sm9.Api.prepare := by equiv_unf Sm9.Gen.LibG2Prepared.from_ Sm9.Api.prepare
theorem LibG2Prepared_pairing : @Sm9.Gen.LibG2Prepared.pairing = @Sm9.Api.preparedPairing := by equiv_unf Sm9.Gen.LibG2Prepared.pairing Sm9.Api.preparedPairing
theorem LibGt_inverse : @Sm9.Gen.LibGt.inverse = @Sm9.Fq12.inverse := by equiv_unf Sm9.Gen.LibGt.inverse Sm9.Fq12.inverse
theorem LibGt_mul : @Sm9.Gen.LibGt.mul = (fun a b : Fq12 => a * b) := by equiv_rfl
theorem LibGt_one : @Sm9.Gen.LibGt.one = @Sm9.Fq12.one := by equiv_unf Sm9.Gen.LibGt.one Sm9.Fq12.one
theorem LibGt_pow : @Sm9.Gen.LibGt.pow = @Sm9.Api.gtPow := by equiv_unf Sm9.Gen.LibGt.pow Sm9.Api.gtPow
theorem LibGt_to_slice : @Sm9.Gen.LibGt.to_slice = @Sm9.Api.fq12ToSlice := by equiv_unf Sm9.Gen.LibGt.to_slice Sm9.Api.fq12ToSlice
theorem Ops_add_assign_ref : @Sm9.Gen.Ops.add_assign_ref = fun (T : Type) (add_inplace sub_inplace mul_inplace : T → T → T) (neg_inplace : T → T) (self rhs : T) => add_inplace self rhs := by rfl
theorem Ops_add_assign_val : @Sm9.Gen.Ops.add_assign_val = fun (T : Type) (add_inplace sub_inplace mul_inplace : T → T → T) (neg_inplace : T → T) (self rhs : T) => add_inplace self rhs := by rfl
theorem Ops_add_ref_ref : @Sm9.Gen.Ops.add_ref_ref = fun (T : Type) (add_inplace sub_inplace mul_inplace : T → T → T) (neg_inplace : T → T) (self rhs : T) => add_inplace self rhs := by rfl
theorem Ops_add_ref_val : @Sm9.Gen.Ops.add_ref_val = fun (T : Type) (add_inplace sub_inplace mul_inplace : T → T → T) (neg_inplace : T → T) (self rhs : T) => add_inplace self rhs := by rfl
theorem Ops_add_val_ref : @Sm9.Gen.Ops.add_val_ref = fun (T : Type) (add_inplace sub_inplace mul_inplace : T → T → T) (neg_inplace : T → T) (self rhs : T) => add_inplace self rhs := by rfl
theorem Ops_add_val_val : @Sm9.Gen.Ops.add_val_val = fun (T : Type) (add_inplace sub_inplace mul_inplace : T → T → T) (neg_inplace : T → T) (self rhs : T) => add_inplace self rhs := by rfl
theorem Ops_mul_assign_ref : @Sm9.Gen.Ops.mul_assign_ref = fun (T : Type) (add_inplace sub_inplace mul_inplace : T → T → T) (neg_inplace : T → T) (self rhs : T) => mul_inplace self rhs := by rfl
theorem Ops_mul_assign_val : @Sm9.Gen.Ops.mul_assign_val = fun (T : Type) (add_inplace sub_inplace mul_inplace : T → T → T) (neg_inplace : T → T) (self rhs : T) => mul_inplace self rhs := by rfl
theorem Ops_mul_ref_ref : @Sm9.Gen.Ops.mul_ref_ref = fun (T : Type) (add_inplace sub_inplace mul_inplace : T → T → T) (neg_inplace : T → T) (self rhs : T) => mul_inplace self rhs := by rfl
theorem Ops_mul_ref_val : @Sm9.Gen.Ops.mul_ref_val = fun (T : Type) (add_inplace sub_inplace mul_inplace : T → T → T) (neg_inplace : T → T) (self rhs : T) => mul_inplace self rhs := by rfl
theorem Ops_mul_val_ref : @Sm9.Gen.Ops.mul_val_ref = fun (T : Type) (add_inplace sub_inplace mul_inplace : T → T → T) (neg_inplace : T → T) (self rhs : T) => mul_inplace self rhs := by rfl
theorem Ops_mul_val_val : @Sm9.Gen.Ops.mul_val_val = fun (T : Type) (add_inplace sub_inplace mul_inplace : T → T → T) (neg_inplace : T → T) (self rhs : T) => mul_inplace self rhs := by rfl
theorem Ops_neg_ref : @Sm9.Gen.Ops.neg_ref = fun (T : Type) (add_inplace sub_inplace mul_inplace : T → T → T) (neg_inplace : T → T) (self : T) => neg_inplace self := by rfl
theorem Ops_neg_val : @Sm9.Gen.Ops.neg_val = fun (T : Type) (add_inplace sub_inplace mul_inplace : T → T → T) (neg_inplace : T → T) (self : T) => neg_inplace self := by rfl
theorem Ops_sub_assign_ref : @Sm9.Gen.Ops.sub_assign_ref = fun (T : Type) (add_inplace sub_inplace mul_inplace : T → T → T) (neg_inplace : T → T) (self rhs : T) => sub_inplace self rhs := by rfl
theorem Ops_sub_assign_val : @Sm9.Gen.Ops.sub_assign_val = fun (T : Type) (add_inplace sub_inplace mul_inplace : T → T → T) (neg_inplace : T → T) (self rhs : T) => sub_inplace self rhs := by rfl
theorem Ops_sub_ref_ref : @Sm9.Gen.Ops.sub_ref_ref = fun (T : Type) (add_inplace sub_inplace mul_inplace : T → T → T) (neg_inplace : T → T) (self rhs : T) => sub_inplace self rhs := by rfl
theorem Ops_sub_ref_val : @Sm9.Gen.Ops.sub_ref_val = fun (T : Type) (add_inplace sub_inplace mul_inplace : T → T → T) (neg_inplace : T → T) (self rhs : T) => sub_inplace self rhs := by rfl
theorem Ops_sub_val_ref : @Sm9.Gen.Ops.sub_val_ref = fun (T : Type) (add_inplace sub_inplace mul_inplace : T → T → T) (neg_inplace : T → T) (self rhs : T) => sub_inplace self rhs := by rfl
theorem Ops_sub_val_val : @Sm9.Gen.Ops.sub_val_val = fun (T : Type) (add_inplace sub_inplace mul_inplace : T → T → T) (neg_inplace : T → T) (self rhs : T) => sub_inplace self rhs := by rfl
theorem Pairings_bit : @Sm9.Gen.Pairings.bit = @Sm9.bit := by funext n pos; exact bit_equiv n pos
theorem Pairings_fast_pairing : @Sm9.Gen.Pairings.fast_pairing = @Sm9.Pairings.fast_pairing := by equiv_unf Sm9.Gen.Pairings.fast_pairing Sm9.Pairings.fast_pairing
theorem Pairings_pairing : @Sm9.Gen.Pairings.pairing = @Sm9.Pairings.pairing := by first
  | equiv_rfl
  | (funext p q; unfold Sm9.Gen.Pairings.pairing Sm9.Pairings.pairing; cases p.to_affine <;> cases q.to_affine <;> rfl)

end Sm9.GenEquiv
