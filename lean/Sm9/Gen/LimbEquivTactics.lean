import Sm9.Gen.LimbRust
import Sm9.Proofs.Conversions
import Sm9.Proofs.Divrem
import Sm9.Proofs.LibScalar
import Lean
set_option exponentiation.threshold 1024
set_option linter.unusedSimpArgs false
set_option linter.unusedVariables false
/-!
Tactics closing `generated limb-level definition = hand-written model definition` goals
(`Sm9/Gen/LimbEquiv.lean`, printed by tools/gen_limb_equiv.py), and hand-proved lemmas about the model only that put
a model definition into the shape of the Rust code where the two differ by a real theorem.

The work-horse is `kernel_rfl`: both sides are closed terms over the same free variables whose
list structure (`U256.limbs x`, `List.set`, `List.range 4`, …) is concrete, so the *kernel's* definitional
equality check evaluates the fully unrolled generated code and the recursive model (`Limb.mulAcc`,
`Limb.redc`, `sqRow`, …) to the same nest of `% B64` / `/ B64` terms with sharing.  `Meta.isDefEq` is not
used for that (it loses the sharing and times out); the tactic adds an auxiliary theorem whose proof is
`Eq.refl` — an ordinary proof term checked by the kernel with a heartbeat bound (no axioms).
-/
namespace Sm9.GenL
open Lean Elab Tactic Meta

/-- close `a = b` by `Eq.refl a` if the *kernel* finds `a` and `b` definitionally equal.
    The check is made by adding an auxiliary theorem `∀ xs, a = b := fun xs => Eq.refl a` (`xs` the free
    variables of the goal) to the environment with a bounded number of heartbeats; the goal is then closed
    by that theorem.  Fails (instead of looping) when the two sides are not definitionally equal. -/
elab "kernel_rfl" : tactic => withMainContext do
  let g ← getMainGoal
  let t ← instantiateMVars (← g.getType)
  let some (_, lhs, _) := t.eq? | throwError "kernel_rfl: goal is not an equation"
  if t.hasExprMVar then throwError "kernel_rfl: goal contains metavariables"
  let lctx ← getLCtx
  let mut xs : Array Expr := #[]
  for d in lctx do
    if d.isImplementationDetail then continue
    if t.containsFVar d.fvarId then
      if d.isLet then throwError "kernel_rfl: let variable in the goal"
      xs := xs.push d.toExpr
  let ty ← instantiateMVars (← mkForallFVars xs t)
  let pf ← instantiateMVars (← mkLambdaFVars xs (← mkEqRefl lhs))
  if ty.hasFVar then throwError "kernel_rfl: goal depends on hypotheses"
  let base := (← Term.getDeclName?).getD `limb
  let mut idx := 1
  let mut n := base ++ `_kernel_rfl_1
  while (← getEnv).contains n do
    idx := idx + 1
    n := base ++ (Name.mkSimple s!"_kernel_rfl_{idx}")
  let decl := Declaration.thmDecl { name := n, levelParams := [], type := ty, value := pf }
  try
    withOptions (fun o => Elab.async.set (maxHeartbeats.set o 4000) false) (addDecl decl)
  catch _ =>
    throwError "kernel_rfl: the two sides are not definitionally equal (or the check ran out of heartbeats)"
  g.assign (mkAppN (mkConst n) xs)

end Sm9.GenL

namespace Sm9.GenL
open Sm9

/-! bit `i` of a 256-bit value is bit `i % 64` of limb `i / 64`: what `set_bit_model_nf` (limb `n >> 6`, bit `n & 0x3f`) rests on -/
theorem testBit_value (l : List Nat) (hl : ∀ x ∈ l, x < B64) (i : Nat) :
    (Limb.value B64 l).testBit i = (l.getD (i / 64) 0).testBit (i % 64) := by
  induction l generalizing i with
  | nil => simp [Limb.value]
  | cons x xs ih =>
    have hx : x < 2 ^ 64 := hl x (by simp)
    have hxs : ∀ y ∈ xs, y < B64 := fun y hy => hl y (by simp [hy])
    simp only [Limb.value]
    rw [show x + B64 * Limb.value B64 xs = 2 ^ 64 * Limb.value B64 xs + x from by simp [B64, Nat.add_comm], Nat.testBit_two_pow_mul_add _ hx]
    split
    · next h =>
      have h1 : i / 64 = 0 := by omega
      have h2 : i % 64 = i := by omega
      simp [h1, h2]
    · next h =>
      rw [ih hxs]
      have h1 : i / 64 = (i - 64) / 64 + 1 := by omega
      have h2 : i % 64 = (i - 64) % 64 := by omega
      rw [h1, h2]; simp

theorem testBit_limbs (a i : Nat) (ha : a < W256) :
    a.testBit i = ((U256.limbs a).getD (i / 64) 0).testBit (i % 64) := by
  have h := testBit_value (U256.limbs a) (U256.limbs_lt a) i
  rw [← h, U256.value_limbs a ha]

theorem set_limb_testBit (a l v i : Nat) (ha : a < W256) (hv : v < B64) (hl : l < 4) :
    (U256.ofLimbs ((U256.limbs a).set l v)).testBit i = if i / 64 = l then v.testBit (i % 64) else a.testBit i := by
  have hmem : ∀ x ∈ (U256.limbs a).set l v, x < B64 := by
    intro x hx
    rcases List.mem_or_eq_of_mem_set hx with h | h
    · exact U256.limbs_lt a x h
    · exact h ▸ hv
  rw [U256.ofLimbs, testBit_value _ hmem, testBit_limbs a i ha]
  have hlen : (U256.limbs a).length = 4 := rfl
  by_cases h : i / 64 = l
  · simp [h, List.getD_eq_getElem?_getD, List.getElem?_set, hlen, hl]
  · have h' : ¬ l = i / 64 := fun e => h e.symm
    simp [h, h', List.getD_eq_getElem?_getD, List.getElem?_set]

theorem shl_mod (b : Nat) (hb : b < 64) : (1 <<< b) % B64 = 2 ^ b := by
  rw [Nat.one_shiftLeft]
  exact Nat.mod_eq_of_lt (Nat.pow_lt_pow_right (by decide) hb)

theorem set_bit_limbs (a n : Nat) (tb : Bool) (ha : a < W256) (hn : n < 256) :
    (Sm9.U256.set_bit a n tb).1 =
      U256.ofLimbs ((U256.limbs a).set (n >>> 6)
        (if tb then U256.getL (U256.limbs a) (n >>> 6) ||| ((1 <<< (n &&& 63)) % B64)
         else U256.getL (U256.limbs a) (n >>> 6) &&& (B64 - 1 - ((1 <<< (n &&& 63)) % B64)))) := by
  have hl : n >>> 6 = n / 64 := Nat.shiftRight_eq_div_pow n 6
  have hb : n &&& 63 = n % 64 := Nat.and_two_pow_sub_one_eq_mod n 6
  have hb64 : n % 64 < 64 := Nat.mod_lt _ (by decide)
  have hl4 : n / 64 < 4 := by omega
  have hg := U256.getL_limbs_lt a (n / 64)
  rw [hl, hb, shl_mod _ hb64]
  unfold Sm9.U256.set_bit
  rw [if_neg (by omega)]
  apply Nat.eq_of_testBit_eq
  intro i
  have hgb : U256.getL (U256.limbs a) (n / 64) = (U256.limbs a).getD (n / 64) 0 := rfl
  cases tb
  · have hv : U256.getL (U256.limbs a) (n / 64) &&& (B64 - 1 - 2 ^ (n % 64)) < B64 := Nat.lt_of_le_of_lt Nat.and_le_left hg
    simp only [Bool.false_eq_true, if_false]
    rw [set_limb_testBit a _ _ i ha hv hl4, Nat.testBit_and, Nat.one_shiftLeft]
    have e1 : W256 - 1 - 2 ^ n = 2 ^ 256 - (2 ^ n + 1) := by rw [W256, Nat.sub_sub, Nat.add_comm]
    have e2 : B64 - 1 - 2 ^ (n % 64) = 2 ^ 64 - (2 ^ (n % 64) + 1) := by rw [B64, Nat.sub_sub, Nat.add_comm]
    rw [e1, Nat.testBit_two_pow_sub_succ (Nat.pow_lt_pow_right (by decide) hn), Nat.testBit_two_pow]
    by_cases h : i / 64 = n / 64
    · rw [if_pos h, Nat.testBit_and, e2, Nat.testBit_two_pow_sub_succ (Nat.pow_lt_pow_right (by decide) hb64), Nat.testBit_two_pow, hgb, ← h, ← testBit_limbs a i ha]
      have : i % 64 < 64 := Nat.mod_lt _ (by decide)
      have h1 : (n % 64 = i % 64) ↔ (n = i) := by omega
      have h2 : i < 256 := by omega
      simp [this, h1, h2]
    · rw [if_neg h]
      have h1 : ¬ n = i := fun e => h (e ▸ rfl)
      by_cases h2 : i < 256
      · simp [h1, h2]
      · have : a.testBit i = false := Nat.testBit_lt_two_pow (Nat.lt_of_lt_of_le ha (Nat.pow_le_pow_right (by decide) (by omega)))
        simp [this]
  · have hv : U256.getL (U256.limbs a) (n / 64) ||| 2 ^ (n % 64) < B64 := Nat.or_lt_two_pow hg (Nat.pow_lt_pow_right (by decide) hb64)
    simp only [if_true]
    rw [set_limb_testBit a _ _ i ha hv hl4, Nat.testBit_or, Nat.one_shiftLeft, Nat.testBit_two_pow]
    by_cases h : i / 64 = n / 64
    · rw [if_pos h, Nat.testBit_or, Nat.testBit_two_pow, hgb, ← h, ← testBit_limbs a i ha]
      have h1 : (n % 64 = i % 64) ↔ (n = i) := by omega
      simp [h1]
    · rw [if_neg h]
      have h1 : ¬ n = i := fun e => h (e ▸ rfl)
      simp [h1]

/-- model-side normal form of `U256::set_bit`: the value-level `|||` / `&&&` of the model is the limb-level
    update the Rust code performs (limb `n >> 6`, bit `n & 0x3f`) -/
theorem set_bit_model_nf (a n : Nat) (tb : Bool) (ha : a < W256) :
    Sm9.U256.set_bit a n tb =
      if n ≥ 256 then (a, false)
      else ((if tb then
              U256.ofLimbs ((U256.limbs a).set (n >>> 6) (U256.getL (U256.limbs a) (n >>> 6) ||| ((1 <<< (n &&& 63)) % B64)))
             else
              U256.ofLimbs ((U256.limbs a).set (n >>> 6) (U256.getL (U256.limbs a) (n >>> 6) &&& (B64 - 1 - ((1 <<< (n &&& 63)) % B64))))), true) := by
  by_cases h : n ≥ 256
  · rw [if_pos h]; unfold Sm9.U256.set_bit; rw [if_pos h]
  · rw [if_neg h]
    have h1 := set_bit_limbs a n tb ha (by omega)
    have h2 : (Sm9.U256.set_bit a n tb).2 = true := by unfold Sm9.U256.set_bit; rw [if_neg h]
    cases tb <;> exact Prod.ext h1 h2

end Sm9.GenL

namespace Sm9.Outcome
@[simp] theorem bind_ok_right_fun {α : Type} (x : Outcome α) : Outcome.bind x (fun a => Outcome.ok a) = x := by cases x <;> rfl
@[simp] theorem ok_bind {α β : Type} (a : α) (f : α → Outcome β) : Outcome.bind (Outcome.ok a) f = f a := rfl
@[simp] theorem panic_bind {α β : Type} (f : α → Outcome β) : Outcome.bind (Outcome.panic : Outcome α) f = Outcome.panic := rfl
@[simp] theorem unwrap_none {α : Type} : Outcome.unwrap (none : Option α) = Outcome.panic := rfl
end Sm9.Outcome

namespace Sm9.GenL
open Sm9

namespace Bytes
theorem beVal_split (s : List UInt8) (k : Nat) :
    beVal s = beVal (s.take k) * 256 ^ (s.length - k) + beVal (s.drop k) := by
  conv_lhs => rw [← List.take_append_drop k s]
  rw [beVal_append, List.length_drop]

/-- a string of `8 n` bytes read as `n` big-endian words, least significant word first: the loops of `U256::from_slice`
    (`n = 4`) and `U512::from_slice` (`n = 8`) -/
theorem beVal_words (n : Nat) : ∀ s : List UInt8, s.length = 8 * n →
    beVal s = Limb.value B64 ((List.range n).reverse.map fun i => beVal ((s.drop (8 * i)).take 8)) := by
  induction n with
  | zero => intro s h; rw [List.eq_nil_of_length_eq_zero (by omega : s.length = 0)]; rfl
  | succ n ih =>
    intro s h
    have e : ∀ i ∈ (List.range n).reverse,
        beVal ((((s.take (8 * n)).drop (8 * i))).take 8) = beVal ((s.drop (8 * i)).take 8) := by
      intro i hi
      have : i < n := by simpa using hi
      rw [List.drop_take, List.take_take, Nat.min_eq_left (by omega)]
    have top : (s.drop (8 * n)).take 8 = s.drop (8 * n) := List.take_of_length_le (by rw [List.length_drop]; omega)
    rw [List.range_succ, List.reverse_append, List.reverse_singleton, List.singleton_append, List.map_cons, Limb.value,
      ← List.map_congr_left e, ← ih _ (by rw [List.length_take]; omega), top, beVal_split s (8 * n), h,
      show 8 * (n + 1) - 8 * n = 8 by omega, show B64 = 256 ^ 8 by decide +kernel]
    ring

theorem from_slice32_nf (s : List UInt8) :
    Sm9.U256.from_slice s = if (s.length != 32) = true then none else
      some (U256.ofLimbs [beVal ((s.drop 24).take 8), beVal ((s.drop 16).take 8), beVal ((s.drop 8).take 8), beVal ((s.drop 0).take 8)]) := by
  unfold Sm9.U256.from_slice
  by_cases h : s.length = 32
  · simp only [h, bne_self_eq_false, Bool.false_eq_true, if_false]; rw [beVal_words 4 s h]; rfl
  · have : (s.length != 32) = true := by simpa using h
    simp only [this, if_true]

theorem from_slice64_nf (s : List UInt8) :
    Sm9.U512.from_slice s = if (s.length != 64) = true then none else
      some (Limb.value B64 [beVal ((s.drop 56).take 8), beVal ((s.drop 48).take 8), beVal ((s.drop 40).take 8), beVal ((s.drop 32).take 8),
      beVal ((s.drop 24).take 8), beVal ((s.drop 16).take 8), beVal ((s.drop 8).take 8), beVal ((s.drop 0).take 8)]) := by
  unfold Sm9.U512.from_slice
  by_cases h : s.length = 64
  · simp only [h, bne_self_eq_false, Bool.false_eq_true, if_false]; rw [beVal_words 8 s h]; rfl
  · have : (s.length != 64) = true := by simpa using h
    simp only [this, if_true]
end Bytes

namespace U512L
theorem getD_from_slice_bytes (h l : Nat) (hh : h < W256) (hl : l < W256) :
    Option.getD (Sm9.U512.from_slice (beBytes 32 h ++ beBytes 32 l)) 0 = h * W256 + l := by
  unfold Sm9.U512.from_slice
  have hlen : (beBytes 32 h ++ beBytes 32 l).length = 64 := by simp [beBytes_length]
  simp only [hlen, bne_self_eq_false, Bool.false_eq_true, if_false, Option.getD_some]
  rw [beVal_append, beBytes_length, beVal_beBytes _ _ (pow256_32 ▸ hh), beVal_beBytes _ _ (pow256_32 ▸ hl), pow256_32]

/-- model-side normal form of `U512::new`: the result assembled through the byte round trip of the Rust code -/
theorem new_model_nf (c1 c0 m : Nat) (h1 : c1 < W256) (h2 : m < W256) :
    Sm9.U512.new c1 c0 m =
      (let (low, high) := Big.mul c1 m
       let (low, carry) := Big.add_with_carry W256 low c0
       let (high, carry) := if carry then Big.add_with_carry W256 high 1 else (high, carry)
       (Option.getD (Sm9.U512.from_slice (beBytes 32 high ++ beBytes 32 low)) 0, !carry)) := by
  have hh : c1 * m / W256 < W256 := Nat.div_lt_of_lt_mul (Nat.mul_lt_mul'' h1 h2)
  have hW : 0 < W256 := by decide
  unfold Sm9.U512.new Big.mul Big.add_with_carry
  simp only []
  split
  · rw [getD_from_slice_bytes _ _ (Nat.mod_lt _ hW) (Nat.mod_lt _ hW)]
  · rw [getD_from_slice_bytes _ _ hh (Nat.mod_lt _ hW)]

def QInv (st : Option Nat × Nat) : Prop := ∀ qv, st.1 = some qv → qv < W256

theorem divStep_inv (self m : Nat) (st : Option Nat × Nat) (i : Nat) (h : QInv st) : QInv (Sm9.U512.divStep self m st i) := by
  obtain ⟨q, r⟩ := st
  unfold Sm9.U512.divStep
  simp only []
  split
  · intro qv hq
    cases q with
    | none => simp at hq
    | some q0 =>
      simp only [] at hq
      split at hq
      · rw [Option.some.injEq] at hq; subst hq; exact Fp.set_bit_raw_lt q0 i true (h q0 rfl)
      · simp at hq
  · exact h

theorem QInv_init : QInv (some 0, 0) := by intro qv h; simp at h; subst h; decide
end U512L

/-- `char::to_digit(10)`, as the translator renders it, yields a digit ≤ 9 -/
theorem digit_le (c : Char) (d : Nat) (h : (if Char.isDigit c then some (Char.toNat c - 48) else none) = some d) : d ≤ 9 := by
  split at h
  · next hd =>
    rw [Option.some.injEq] at h
    subst h
    simp only [Char.isDigit, Bool.and_eq_true, decide_eq_true_eq] at hd
    have h2 : c.val ≤ 57 := hd.2
    have : c.toNat ≤ 57 := by
      show c.val.toNat ≤ 57
      exact UInt32.le_iff_toNat_le.mp h2
    omega
  · cases h

namespace Bits
/-- specification of `BitIterator::next` on the state `(int, n)` -/
def nextSpec (s : Nat × Nat) : (Nat × Nat) × Option Bool :=
  if (s.2 == 0) = true then (s, none) else ((s.1, s.2 - 1), Sm9.U256.get_bit s.1 (s.2 - 1))

theorem iterList_next (a : Nat) (n : Nat) (hn : n ≤ 256) :
    Sm9.Gen.L.iterList nextSpec (n + 1) (a, n) = (List.range n).reverse.map (fun i => a.testBit i) := by
  induction n with
  | zero => simp [Sm9.Gen.L.iterList, nextSpec]
  | succ k ih =>
    have hk : ¬ (k ≥ 256) := by omega
    rw [Sm9.Gen.L.iterList]
    simp only [nextSpec, Nat.add_sub_cancel, Sm9.U256.get_bit, hk, if_false]
    have : (k + 1 == 0) = false := by simp
    simp only [this, Bool.false_eq_true, if_false]
    rw [ih (by omega), List.range_succ, List.reverse_append]
    simp

theorem bitLen_eq (a n : Nat) (h1 : 2 ^ n ≤ a) (h2 : a < 2 ^ (n + 1)) : bitLen a = n + 1 := by
  have ha : a ≠ 0 := by have := Nat.two_pow_pos n; omega
  have hb : bitLen a = a.log2 + 1 := by unfold bitLen; rw [if_neg ha]
  have l1 : 2 ^ a.log2 ≤ a := Nat.log2_self_le ha
  have l2 : a < 2 ^ (a.log2 + 1) := Nat.lt_log2_self
  have e1 : a.log2 < n + 1 := (Nat.pow_lt_pow_iff_right (by decide : 1 < 2)).mp (Nat.lt_of_le_of_lt l1 h2)
  have e2 : n < a.log2 + 1 := (Nat.pow_lt_pow_iff_right (by decide : 1 < 2)).mp (Nat.lt_of_le_of_lt h1 l2)
  omega

theorem dropWhile_bits (a n : Nat) (h : a < 2 ^ n) :
    List.dropWhile (fun b => !b) ((List.range n).reverse.map (fun i => a.testBit i)) = bitsMSB a := by
  induction n with
  | zero =>
    have : a = 0 := by simpa using h
    subst this; rfl
  | succ k ih =>
    rw [List.range_succ, List.reverse_append]
    simp only [List.reverse_cons, List.reverse_nil, List.nil_append, List.singleton_append, List.map_cons]
    cases hb : a.testBit k
    · -- bit k clear: a < 2^k
      have hlt : a < 2 ^ k := by
        rw [Nat.testBit_eq_decide_div_mod_eq] at hb
        have h2 : a / 2 ^ k < 2 := by rw [Nat.div_lt_iff_lt_mul (Nat.two_pow_pos k)]; rw [Nat.pow_succ] at h; omega
        have h4 : ¬ (a / 2 ^ k % 2 = 1) := by simpa using hb
        have h3 : a / 2 ^ k = 0 := by
          generalize a / 2 ^ k = x at h2 h4
          omega
        exact (Nat.div_eq_zero_iff_lt (Nat.two_pow_pos k)).mp h3
      rw [List.dropWhile_cons]
      simp only [Bool.not_false, if_true]
      exact ih hlt
    · -- bit k set: 2^k ≤ a, so bitLen a = k + 1
      have hge : 2 ^ k ≤ a := by
        by_contra hc
        have := Nat.testBit_lt_two_pow (Nat.lt_of_not_le hc)
        rw [this] at hb; cases hb
      rw [List.dropWhile_cons]
      simp only [Bool.not_true, Bool.false_eq_true, if_false]
      unfold bitsMSB
      rw [bitLen_eq a k hge h, List.range_succ, List.reverse_append]
      simp [hb]

/-- model-side statement for `U256::bits_without_leading_zeros` -/
theorem bits_nf (a : Nat) (ha : a < W256) :
    List.dropWhile (fun b => !b) (Sm9.Gen.L.iterList nextSpec ((a, 256).2 + 1) (a, 256)) = bitsMSB a := by
  show List.dropWhile (fun b => !b) (Sm9.Gen.L.iterList nextSpec (256 + 1) (a, 256)) = bitsMSB a
  rw [iterList_next a 256 (Nat.le_refl _)]
  exact dropWhile_bits a 256 ha
end Bits

namespace Sop
abbrev T6 := Nat × Nat × Nat × Nat × Nat × Nat
abbrev T5 := Nat × Nat × Nat × Nat × Nat
def toL6 : T6 → List Nat | (t0, t1, t2, t3, t4, t5) => [t0, t1, t2, t3, t4, t5]
def toL5 : T5 → List Nat | (a, b, c, d, e) => [a, b, c, d, e]
def ext : T5 → T6 | (a, b, c, d, e) => (a, b, c, d, e, 0)

/-- inner step of `sum_of_products` on a tuple state (the shape of the Rust closure) -/
def accT (j : Nat) : T6 → Nat × Nat → T6
  | (t0, t1, t2, t3, t4, t5), (a, b) =>
    let d := U256.getL (U256.limbs a) j
    let e := U256.limbs b
    let (t0, carry) := Limb.mac B64 t0 d (U256.getL e 0) 0
    let (t1, carry) := Limb.mac B64 t1 d (U256.getL e 1) carry
    let (t2, carry) := Limb.mac B64 t2 d (U256.getL e 2) carry
    let (t3, carry) := Limb.mac B64 t3 d (U256.getL e 3) carry
    let (t4, carry) := Limb.adc B64 t4 0 carry
    let (t5, _) := Limb.adc B64 t5 0 carry
    (t0, t1, t2, t3, t4, t5)

/-- Montgomery step of `sum_of_products` on a tuple state -/
def redT : T6 → T5
  | (t0, t1, t2, t3, t4, t5) =>
    let k := (t0 * Consts.FQ_INV) % B64
    let m := U256.limbs Consts.FQ
    let (_, carry) := Limb.mac B64 t0 k (U256.getL m 0) 0
    let (r1, carry) := Limb.mac B64 t1 k (U256.getL m 1) carry
    let (r2, carry) := Limb.mac B64 t2 k (U256.getL m 2) carry
    let (r3, carry) := Limb.mac B64 t3 k (U256.getL m 3) carry
    let (r4, carry) := Limb.adc B64 t4 0 carry
    let (r5, _) := Limb.adc B64 t5 0 carry
    (r1, r2, r3, r4, r5)

theorem sopAcc_tuple (j : Nat) (as bs : List Nat) (u : T5) :
    FqL.sopAcc j as bs (toL5 u) = toL6 (List.foldl (accT j) (ext u) (List.zip as bs)) := by
  obtain ⟨u0, u1, u2, u3, u4⟩ := u
  unfold FqL.sopAcc
  exact List.foldl_rel (r := fun s t => t = toL6 s) (f := accT j) (a := (u0, u1, u2, u3, u4, 0)) rfl
    fun ⟨a, b⟩ _ ⟨t0, t1, t2, t3, t4, t5⟩ _ h => h ▸ rfl

theorem sopRed_tuple (t : T6) : FqL.sopRed (toL6 t) = toL5 (redT t) := by
  obtain ⟨t0, t1, t2, t3, t4, t5⟩ := t
  rfl

def roundT (as bs : List Nat) (j : Nat) (u : T5) : T5 := redT (List.foldl (accT j) (ext u) (List.zip as bs))

theorem round_tuple (as bs : List Nat) (j : Nat) (u : T5) :
    FqL.sopRed (FqL.sopAcc j as bs (toL5 u)) = toL5 (roundT as bs j u) := by
  rw [sopAcc_tuple, sopRed_tuple]; rfl

/-- model-side normal form of `Fq::sum_of_products`: tuple state instead of list state, final `add_carry` loop
    and conditional subtraction as in the model -/
theorem sop_model_nf (as bs : List Nat) :
    FqL.sum_of_products as bs =
      (match roundT as bs 3 (roundT as bs 2 (roundT as bs 1 (roundT as bs 0 (0, 0, 0, 0, 0)))) with
       | (u0, u1, u2, u3, u4) =>
         (List.foldl (fun (st : Option Nat) (_ : Nat) => st.bind (fun r => U256.add_carry 8 r Consts.FQ))
             (some (U256.ofLimbs [u0, u1, u2, u3])) (List.range u4)).bind
           (fun r => some (U256.subtract_modulus_with_carry r Consts.FQ false))) := by
  unfold FqL.sum_of_products
  have h : ([0, 1, 2, 3] : List Nat).foldl (fun u j => FqL.sopRed (FqL.sopAcc j as bs u)) [0, 0, 0, 0, 0]
      = toL5 (roundT as bs 3 (roundT as bs 2 (roundT as bs 1 (roundT as bs 0 (0, 0, 0, 0, 0))))) := by
    simp only [List.foldl_cons, List.foldl_nil]
    rw [show ([0, 0, 0, 0, 0] : List Nat) = toL5 (0, 0, 0, 0, 0) from rfl]
    simp only [round_tuple]
  simp only [h]
  generalize roundT as bs 3 (roundT as bs 2 (roundT as bs 1 (roundT as bs 0 (0, 0, 0, 0, 0)))) = u
  obtain ⟨u0, u1, u2, u3, u4⟩ := u
  simp only [Option.map_eq_bind, Function.comp_def]
  rfl

/-- `if n != 0 { for _ in 0..n { .. } }` -/
theorem fold_range_guard {σ : Type} (F : σ → Nat → σ) (s : σ) (n : Nat) :
    (if (n != 0) = true then List.foldl F s (List.range n) else s) = List.foldl F s (List.range n) := by
  cases n <;> simp
end Sop

open Lean Elab Tactic Meta

/-- side conditions `x < W256` of conditional equivalences (`U256.set_bit`) -/
macro "limb_lt" : tactic =>
  `(tactic| first
    | assumption
    | (simp only [Big.div2, Big.add_with_carry, Big.sub_with_borrow, Big.mul2, W256]; omega)
    | decide +kernel)

/-- close one branch after the case split: evaluation, contradiction between branch conditions, or
    (after naming the components of tuple equations) conditional rewriting + `simp_all` -/
syntax "limb_fin" " [" Lean.Parser.Tactic.simpLemma,* "]" : tactic
macro_rules
  | `(tactic| limb_fin [$eqs,*]) =>
    `(tactic| first
      | kernel_rfl
      | contradiction
      | (((try simp only [Big.div2, Big.add_with_carry, Big.sub_with_borrow, Big.mul2, Prod.mk.injEq] at *)
          <;> (repeat (cases ‹_ ∧ _›)) <;> (try subst_vars)
          <;> (try simp (disch := limb_lt) only [$eqs,*]))
         <;> first | kernel_rfl | contradiction | (simp_all; done)))

/-- `limb_equiv G M [eqs]`: unfold the generated definition `G`, rewrite the calls of already translated
    functions with their equivalence theorems `eqs`, then compare with the model definition `M`:
    same term up to (kernel) evaluation, or equal after a case split on the `if`s / `match`es -/
syntax "limb_equiv " ident ident " [" Lean.Parser.Tactic.simpLemma,* "]" : tactic
macro_rules
  | `(tactic| limb_equiv $g $m [$eqs,*]) =>
    `(tactic| (unfold $g
               (try simp (disch := limb_lt) only [$eqs,*]) <;> first
               | kernel_rfl
               | (unfold $m; (repeat' split) <;> limb_fin [$eqs,*])
               | ((repeat' split) <;> limb_fin [$eqs,*])))

/-- functions with fuel (`while` loops): never evaluate in the kernel (free fuel), only rewrite and split -/
syntax "limb_partial " ident ident " [" Lean.Parser.Tactic.simpLemma,* "]" : tactic
macro_rules
  | `(tactic| limb_partial $g $m [$eqs,*]) =>
    `(tactic| (unfold $g
               (try simp (disch := limb_lt) only [$eqs,*]) <;> first
               | rfl
               | ((repeat' split) <;> first | rfl | contradiction | (simp_all; done) | (simp_all [Option.map_eq_bind, Function.comp_def]; done))
               | (unfold $m; (repeat' split) <;> first | rfl | contradiction | (simp_all; done) | (simp_all [Option.map_eq_bind, Function.comp_def]; done))))

/-- `U256::set_bit`: rewrite the model into its limb-level normal form (`set_bit_model_nf`) first -/
syntax "limb_set_bit " ident " [" Lean.Parser.Tactic.simpLemma,* "]" : tactic
macro_rules
  | `(tactic| limb_set_bit $g [$eqs,*]) =>
    `(tactic| (unfold $g
               (rw [set_bit_model_nf _ _ _ (by assumption)]) <;>
                 first | kernel_rfl | ((repeat' split) <;> limb_fin [$eqs,*])))

/-- `Fq::sum_of_products`: rewrite the model into `Sop.sop_model_nf`, rewrite the callees (without touching the
    `match` structure, which keeps the sharing), then evaluate in the kernel -/
syntax "limb_sop " ident " [" Lean.Parser.Tactic.simpLemma,* "]" : tactic
macro_rules
  | `(tactic| limb_sop $g [$eqs,*]) =>
    `(tactic| (unfold $g
               rw [Sop.sop_model_nf]
               (simp (config := {zeta := false, iota := false, proj := false, etaStruct := .none, beta := false}) only
                  [$eqs,*, Option.bind_fun_some, Sop.fold_range_guard]) <;> kernel_rfl))

/-- `limb_nf G [eqs] nf`: first rewrite the model side with the hand-proved normal-form lemma `nf` (which puts the
    model definition into the shape of the Rust code), then compare -/
syntax "limb_nf " ident " [" Lean.Parser.Tactic.simpLemma,* "] " term : tactic
macro_rules
  | `(tactic| limb_nf $g [$eqs,*] $nf) =>
    `(tactic| (unfold $g
               (try simp only [$eqs,*]) <;> (rw [$nf:term]) <;> first
               | kernel_rfl
               | ((repeat' split) <;> limb_fin [$eqs,*])))

theorem min_sub_self (a b : Nat) : min (a - b) a = a - b := Nat.min_eq_left (Nat.sub_le _ _)

/-- the `lib.rs` wrappers: forwarding calls, and `from_slice` with its length arms (zero padding = `List.take` of a
    zero buffer) -/
syntax "limb_lib " ident " [" Lean.Parser.Tactic.simpLemma,* "]" : tactic
macro_rules
  | `(tactic| limb_lib $g [$eqs,*]) =>
    `(tactic| (unfold $g
               (try simp (disch := limb_lt) only [$eqs,*, List.take_replicate, min_sub_self, Sm9.Fp.lib_from_slice,
                  Outcome.bind_ok_right_fun, Option.bind_fun_some, Option.map_id_fun, id_eq]) <;> first
               | rfl
               | kernel_rfl
               | ((repeat' split) <;> limb_fin [$eqs,*])))

/-- fully unrolled carry chains: kernel evaluation of both sides -/
syntax "limb_heavy " ident : tactic
macro_rules
  | `(tactic| limb_heavy $g) => `(tactic| first | kernel_rfl | (unfold $g; kernel_rfl))

/-- the same when the right-hand side is a specification term rather than a model function -/
syntax "limb_spec " ident " [" Lean.Parser.Tactic.simpLemma,* "]" : tactic
macro_rules
  | `(tactic| limb_spec $g [$eqs,*]) =>
    `(tactic| (unfold $g; (try simp (disch := limb_lt) only [$eqs,*]) <;> first | kernel_rfl | ((repeat' split) <;> limb_fin [$eqs,*])))

/-- fuel-recursive loop = fuel-recursive model function, by induction on the fuel -/
syntax "limb_loop " ident ident ident " [" Lean.Parser.Tactic.simpLemma,* "]" : tactic
macro_rules
  | `(tactic| limb_loop $fuel $g $m [$eqs,*]) =>
    `(tactic| (induction $fuel:ident with
               | zero => intros; rfl
               | succ k ih =>
                 intros
                 unfold $g $m
                 (try simp only [ih, $eqs,*]) <;> (first
                 | rfl
                 | (repeat' split) <;> (first | rfl | (simp_all; done)))))

/-- obligations left by the translator: array indices, shift amounts, slice bounds, equal lengths for
    `copy_from_slice`, no underflow, `isSome` for an `unwrap()` treated as total -/
macro "limb_bound" : tactic =>
  `(tactic| first
    | omega
    | (subst_vars; simp only [Nat.shiftRight_eq_div_pow]; omega)
    | (subst_vars; exact Nat.lt_succ_of_le Nat.and_le_right)
    | (simp only [beBytes_length, List.length_drop, List.length_take, List.length_replicate, List.length_append, bne_iff_ne, ne_eq, Decidable.not_not, gt_iff_lt, Nat.not_lt] at *; omega)
    | (simp [Sm9.Gen.L.U512.from_slice, Sm9.Gen.L.U256.from_slice, beBytes_length]; done)
    | (have := digit_le _ _ ‹_›; omega)
    | (simp_all [Char.isDigit]; omega)
    | (simp_all; omega))

end Sm9.GenL
