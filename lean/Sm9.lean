-- model, spec, driver, proofs, property theorems.  Not imported: `Sm9.Gen.Equiv`, `Sm9.Gen.LimbEquiv` (printed on every check run and
-- built by it on their own, `lake build Sm9.Gen.Equiv Sm9.Gen.LimbEquiv`, so that a printed theorem that fails can be left out) and
-- `Sm9/Audit/*.lean` (printed by ./check)
import Sm9.Model.Api
import Sm9.Spec.Spec
import Sm9.Driver.Ops
import Sm9.Proofs.MillerLines
import Sm9.Proofs.MillerSpec
import Sm9.Proofs.MillerPrepared
import Sm9.Proofs.MillerFrobenius
import Sm9.Proofs.MillerNafLines
import Sm9.Proofs.MillerNafSpec
import Sm9.Proofs.MillerNaf
import Sm9.Proofs.ChainIndepDefs
import Sm9.Proofs.ChainIndep
import Sm9.Proofs.ChainIndepSm9
import Sm9.Proofs.BilinRightAlg
import Sm9.Proofs.BilinRight
import Sm9.Proofs.BilinLeftLines
import Sm9.Proofs.BilinLeft
import Sm9.Proofs.Bilinear
import Sm9.Proofs.DecodersG2
import Sm9.Proofs.SpecField
import Sm9.Proofs.SpecTwin
import Sm9.Proofs.SpecCurve
import Sm9.Proofs.SpecRate
import Sm9.Proofs.SpecGroup
import Sm9.Proofs.Program2
import Sm9.Proofs.LibScalar
import Sm9.Proofs.FieldProgram
import Sm9.Props.C01
import Sm9.Props.C02
import Sm9.Props.C03
import Sm9.Props.C04
import Sm9.Props.C05
import Sm9.Props.C06
import Sm9.Props.C07
import Sm9.Props.C08
import Sm9.Props.C09
import Sm9.Props.C10
import Sm9.Props.C11
import Sm9.Props.C12
import Sm9.Props.C13
import Sm9.Props.C14
import Sm9.Props.C15
import Sm9.Props.C16
import Sm9.Props.C17
import Sm9.Props.C18
